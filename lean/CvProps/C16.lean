import CvProps.C16Lemmas
/-!
# C16 — PMF integration solves the stated discrete problem; incremental equals batch

Property theorems about `CvModel/Integrate.lean` at `α := ℝ`.
-/
open Cv Cv.Integ

namespace Cv.C16

/-- a gradient-grid shape: one periodic flag per dimension, at least one bin per dimension -/
def ShapeOk (s : Shape) : Prop := s.per.length = s.nx.length ∧ ∀ n ∈ s.nx, 1 ≤ n

/-- a bin of the gradient grid -/
def BinOk (s : Shape) (b : Idx) : Prop := indexOk s.nx b = true
/-- a point of the PMF grid -/
def PointOk (s : Shape) (q : Idx) : Prop := indexOk s.pmfNx q = true

/-- the divergence array is up to date with the gradient grid -/
def DivInv (sm : Bool) (st : GGrid ℝ × DivF ℝ) : Prop :=
  ∀ q, PointOk st.1.shape q → st.2 q = divLocal st.1 sm q

/-! ## the divergence kept up to date incrementally equals the one recomputed from scratch -/

/-- the divergence at a point reads the gradient grid only through the 2^nd bins around the point -/
theorem divLocal_congr (g g' : GGrid ℝ) (sm : Bool) (q : Idx)
    (hs : g'.shape = g.shape) (hw : g'.w = g.w)
    (h : ∀ c ∈ cornersDown g.shape.nd, gradAt g' sm (addIdx q c) = gradAt g sm (addIdx q c)) :
    divLocal g' sm q = divLocal g sm q := by
  have ht : ∀ d, divTerm g' sm q d = divTerm g sm q d := by
    intro d
    unfold divTerm
    rw [hs, hw]
    congr 1
    apply List.foldl_ext
    intro a c hc
    simp only [h c hc]
  unfold divLocal
  simp only [ht, hs]

/-- a point whose surrounding bins include `b` is one of the 2^nd points `update_div_neighbors(b)` refreshes -/
theorem touched_points (s : Shape) (hs : ShapeOk s) (b q c : Idx) (hq : PointOk s q)
    (hc : c ∈ cornersDown s.nd) (hb : wrapEdge s.nx s.per (addIdx q c) = some b) :
    ∃ e ∈ cornersUp s.nd, q = wrapIdx s.pmfNx s.per (addIdx b e) :=
  ⟨_, Integ.L.neg_mem_cornersUp _ c hc, Integ.L.wrapIdx_add_neg_corner s.nx s.per q c b hs.1 hq hc hb⟩

theorem sample_keeps_inv (sm : Bool) (st : GGrid ℝ × DivF ℝ) (bf : Idx × List ℝ)
    (hs : ShapeOk st.1.shape) (hb : BinOk st.1.shape bf.1) (h : DivInv sm st) :
    DivInv sm (sample sm st bf) := by
  have _ := hb -- not needed: right for any bin index
  intro q hq
  have hshape : (Integ.accForce st.1 bf.1 bf.2).shape = st.1.shape := rfl
  show updateDivNeighbors (Integ.accForce st.1 bf.1 bf.2) sm st.2 bf.1 q =
    divLocal (Integ.accForce st.1 bf.1 bf.2) sm q
  rw [Integ.L.updateDivNeighbors_eq]
  split_ifs with hex
  · rfl
  · have hq' : PointOk st.1.shape q := hq
    rw [h q hq']
    symm
    apply divLocal_congr _ _ sm q hshape rfl
    intro c hc
    apply Integ.L.gradAt_accForce_of_ne
    intro hwe
    exact hex (touched_points st.1.shape hs bf.1 q c hq' hc hwe)

/-- **incremental = batch**: after any sequence of samples (any bins, any multiplicity, any order) the incrementally
    maintained divergence equals `set_div` of the final gradients at every point of the PMF grid -/
theorem incremental_eq_batch (sm : Bool) (g : GGrid ℝ) (l : List (Idx × List ℝ))
    (hs : ShapeOk g.shape) (hb : ∀ bf ∈ l, BinOk g.shape bf.1) :
    let fin := samples sm (g, setDiv g sm) l
    ∀ q, PointOk g.shape q → fin.2 q = setDiv fin.1 sm q := by
  intro fin q hq
  obtain ⟨hinv, hsh⟩ : DivInv sm fin ∧ fin.1.shape = g.shape :=
    List.foldlRecOn (motive := fun st => DivInv sm st ∧ st.1.shape = g.shape) l (sample sm) ⟨fun q _ => rfl, rfl⟩
      fun st h bf hbf => ⟨sample_keeps_inv sm st bf (h.2 ▸ hs) (h.2 ▸ hb bf hbf) h.1, h.2⟩
  exact hinv q (by rw [hsh]; exact hq)

/-- the order of arrival does not matter: two permutations of the same samples give the same gradients, counts and
    divergence -/
theorem arrival_order_irrelevant (sm : Bool) (g : GGrid ℝ) (l₁ l₂ : List (Idx × List ℝ)) (hp : l₁.Perm l₂)
    (hs : ShapeOk g.shape) (hb : ∀ bf ∈ l₁, BinOk g.shape bf.1)
    (hlen : ∀ bf ∈ l₁, bf.2.length = g.shape.nd) (hsum : ∀ j, (g.sum j).length = g.shape.nd) :
    let f₁ := samples sm (g, setDiv g sm) l₁
    let f₂ := samples sm (g, setDiv g sm) l₂
    (∀ j, f₁.1.sum j = f₂.1.sum j) ∧ (∀ j, f₁.1.cnt j = f₂.1.cnt j) ∧
    ∀ q, PointOk g.shape q → f₁.2 q = f₂.2 q := by
  have _ := And.intro hlen hsum  -- not needed: `zipWith` truncates both alike
  intro f₁ f₂
  have heq : f₁.1 = f₂.1 := Integ.L.samples_fst_perm sm l₁ l₂ hp _
  refine ⟨fun j => by rw [heq], fun j => by rw [heq], ?_⟩
  intro q hq
  have e1 := incremental_eq_batch sm g l₁ hs hb q hq
  have e2 := incremental_eq_batch sm g l₂ hs (fun bf hbf => hb bf (hp.mem_iff.2 hbf)) q hq
  show f₁.2 q = f₂.2 q
  rw [e1, e2]
  show setDiv f₁.1 sm q = setDiv f₂.1 sm q
  rw [heq]

/-! ## one dimension: the surface is the running sum of bin averages times the width -/

/-- non-periodic: one more point than bins, and point `i` holds the width times the sum of the first `i` bin averages -/
theorem int1d_nonperiodic (g : GGrid ℝ) (sm csm : Bool) (n : Nat) (w : ℝ)
    (hnx : g.shape.nx = [(n : Int)]) (hper : g.shape.per = [false]) (hw : g.w = [w]) :
    (integrate1D g sm csm).length = n + 1 ∧
    ∀ i, i ≤ n → (integrate1D g sm csm).getD i 0 = ((List.range i).map (valOut g sm)).sum * w := by
  rw [Integ.L.integrate1D_eq g sm csm n w false hnx hper hw]
  simp only [Bool.false_eq_true, if_false, sub_zero]
  refine ⟨by simp [Integ.L.prefixSums_length], ?_⟩
  intro i hi
  rw [Integ.L.prefixSums_getD _ _ _ (by simpa using hi), take_map_range _ _ _ hi, zero_add]
  exact List.sum_map_mul_right ..

theorem average1D_eq (g : GGrid ℝ) (sm : Bool) (n : Nat) :
    average1D g sm n = ((List.range n).map (valOut g sm)).sum / (n : ℝ) := by
  unfold average1D
  rw [foldl_add_map_eq_sum]
  norm_num

/-- periodic: one point per bin, starting at 0, consecutive points differ by (bin average − mean) × width, and
    continuing over the last bin returns to 0: the surface is periodic -/
theorem int1d_periodic (g : GGrid ℝ) (sm : Bool) (n : Nat) (w : ℝ) (hn : 0 < n)
    (hnx : g.shape.nx = [(n : Int)]) (hper : g.shape.per = [true]) (hw : g.w = [w]) :
    let F := integrate1D g sm sm
    F.length = n ∧ F.getD 0 0 = 0 ∧
    (∀ i, i + 1 < n → F.getD (i + 1) 0 - F.getD i 0 = (valOut g sm i - average1D g sm n) * w) ∧
    F.getD (n - 1) 0 + (valOut g sm (n - 1) - average1D g sm n) * w = 0 := by
  intro F
  have hF : F = (prefixSums 0 ((List.range n).map fun i => (valOut g sm i - average1D g sm n) * w)).take n := by
    show integrate1D g sm sm = _
    rw [Integ.L.integrate1D_eq g sm sm n w true hnx hper hw, if_pos rfl]
  have hget : ∀ i, i < n → F.getD i 0 =
      ((List.range i).map fun j => (valOut g sm j - average1D g sm n) * w).sum := by
    intro i hi
    rw [hF, List.getD_eq_getElem?_getD, List.getElem?_take_of_lt hi, ← List.getD_eq_getElem?_getD,
      Integ.L.prefixSums_getD _ _ _ (by rw [List.length_map, List.length_range]; omega),
      take_map_range _ _ _ (le_of_lt hi), zero_add]
  refine ⟨?_, ?_, ?_, ?_⟩
  · rw [hF, List.length_take, Integ.L.prefixSums_length, List.length_map, List.length_range]
    omega
  · rw [hget 0 hn]; rfl
  · intro i hi
    rw [hget (i + 1) hi, hget i (by omega), List.sum_range_succ, add_sub_cancel_left]
  · rw [hget (n - 1) (by omega), ← List.sum_range_succ, Nat.succ_eq_add_one, Nat.sub_one_add_one hn.ne',
      List.sum_map_mul_right, sum_map_sub_const, average1D_eq, List.length_range,
      mul_div_cancel₀ _ (Nat.cast_ne_zero.2 hn.ne'), sub_self, zero_mul]

/-- a constant added to every bin average does not change the surface of a periodic variable -/
theorem int1d_periodic_shift (g g' : GGrid ℝ) (sm : Bool) (n : Nat) (w c : ℝ) (hn : 0 < n)
    (hnx : g.shape.nx = [(n : Int)]) (hper : g.shape.per = [true]) (hw : g.w = [w])
    (hs' : g'.shape = g.shape) (hw' : g'.w = g.w)
    (hv : ∀ i, i < n → valOut g' sm i = valOut g sm i + c) :
    integrate1D g' sm sm = integrate1D g sm sm := by
  have hn' : (n : ℝ) ≠ 0 := Nat.cast_ne_zero.2 hn.ne'
  have havg : average1D g' sm n = average1D g sm n + c := by
    rw [average1D_eq, average1D_eq, List.map_congr_left (fun i hi => hv i (List.mem_range.1 hi)),
      List.sum_map_add, List.map_const', List.sum_replicate, List.length_range, nsmul_eq_mul, add_div,
      mul_div_cancel_left₀ _ hn']
  rw [Integ.L.integrate1D_eq g sm sm n w true hnx hper hw,
    Integ.L.integrate1D_eq g' sm sm n w true (hs' ▸ hnx) (hs' ▸ hper) (hw' ▸ hw), havg]
  simp only [if_true]
  congr 2
  refine List.map_congr_left fun i hi => ?_
  rw [hv i (List.mem_range.1 hi), add_sub_add_right_eq_sub]

/-! ## the Laplacian and the solver -/

/-- the Laplacian annihilates constants: the surface is determined up to an additive constant only -/
theorem lapAt_const (pnx : List Int) (per : List Bool) (w : List ℝ) (c : ℝ) (p : Idx) :
    lapAt pnx per w (fun _ => c) p = 0 := by
  rw [Integ.L.lapAt_eq_sum]
  simp [Integ.L.stencil_const]

theorem lapAt_linear (pnx : List Int) (per : List Bool) (w : List ℝ) (A B : Idx → ℝ) (a : ℝ) (p : Idx) :
    lapAt pnx per w (fun q => A q + a * B q) p = lapAt pnx per w A p + a * lapAt pnx per w B p := by
  rw [Integ.L.lapAt_eq_sum, Integ.L.lapAt_eq_sum, Integ.L.lapAt_eq_sum, ← List.sum_map_mul_left, ← List.sum_map_add]
  refine congrArg List.sum (List.map_congr_left fun d _ => ?_)
  rw [Integ.L.stencil_linear, mul_add, mul_left_comm]

/-- `atimes` is a linear operator on vectors of equal length, and its result has one entry per grid point -/
theorem atimes_linear (pnx : List Int) (per : List Bool) (w : List ℝ) (a : ℝ) (x p : List ℝ) (h : x.length = p.length) :
    atimes pnx per w (axpy a p x) = axpy a (atimes pnx per w p) (atimes pnx per w x) ∧
    (atimes pnx per w x).length = (points pnx).length := by
  refine ⟨?_, by simp [atimes]⟩
  unfold atimes
  simp only [Integ.L.vget_axpy a p x h, lapAt_linear]
  simp [axpy, List.zipWith_map_left, List.zipWith_map_right]

/-- conjugate gradients: in exact arithmetic the recursively updated residual is the true residual `b − L x`
    after any number of iterations -/
theorem cg_residual_invariant (L : List ℝ → List ℝ) (n : Nat) (hL : LinOp L n) (b x0 : List ℝ) (tol : ℝ) (itmax : Nat)
    (hb : b.length = n) (hx : x0.length = n) :
    let res := cgSolve L b x0 tol itmax
    res.x.length = n ∧ res.r = List.zipWith (· - ·) b (L res.x) := by
  intro res
  have h := Integ.L.cgSolve_inv L n hL b x0 tol itmax hb hx
  exact ⟨h.x_len, h.residual⟩

/-- when the solver reports convergence, the discrete Laplacian of the result equals the right-hand side to the
    tolerance: `|b − L x| ≤ tol · |b|` -/
theorem cg_exit_bound (L : List ℝ → List ℝ) (n : Nat) (hL : LinOp L n) (b x0 : List ℝ) (tol : ℝ) (itmax : Nat)
    (hb : b.length = n) (hx : x0.length = n) :
    let res := cgSolve L b x0 tol itmax
    res.stop = true → l2norm (List.zipWith (· - ·) b (L res.x)) ≤ tol * l2norm b := by
  intro res hstop
  have h := Integ.L.cgSolve_inv L n hL b x0 tol itmax hb hx
  rw [← h.residual, ← div_le_iff₀ (Integ.L.cgSolve_stop_pos L b x0 tol itmax hstop)]
  exact h.stopped hstop

theorem atimes_linop (pnx : List Int) (per : List Bool) (w : List ℝ) :
    LinOp (atimes pnx per w) (points pnx).length :=
  ⟨fun x _ => (atimes_linear pnx per w 0 x x rfl).2,
    fun a x p hx hp => (atimes_linear pnx per w a x p (hx.trans hp.symm)).1⟩

/-! ## non-vacuity of `ShapeOk`, `BinOk`, `PointOk` -/

example : ShapeOk { nx := [3, 2], per := [true, false] } := by
  refine ⟨rfl, ?_⟩; intro n hn; simp at hn; rcases hn with rfl | rfl <;> decide
example : BinOk { nx := [3, 2], per := [true, false] } [2, 1] := by unfold BinOk; decide
example : PointOk { nx := [3, 2], per := [true, false] } [2, 2] := by unfold PointOk; decide

/-! ## where the points of the surface sit -/

/-- the `j`-th value of the surface is reported at the **lower edge of gradient bin `j`** (`lo + j·w`), in periodic and
    non-periodic dimensions alike: the gradients are bin averages and the surface is their cumulative sum, so that is the
    point up to which `int1d` has integrated.  (A half-bin shift applied only to non-periodic dimensions moves the surface of a
    periodic one by `w/2` and turns the second-order agreement with a smooth surface into first order.) -/
theorem surface_point_at_bin_edge (lo w : ℝ) (j : Int) : pmfCoord lo w j = lo + w * (j : ℝ) := by
  rw [pmfCoord, pmfLower, lit_half]
  ring

theorem surface_points_spacing (lo w : ℝ) (j : Int) : pmfCoord lo w (j + 1) - pmfCoord lo w j = w := by
  rw [surface_point_at_bin_edge, surface_point_at_bin_edge]
  push_cast
  ring

end Cv.C16
