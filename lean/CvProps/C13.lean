import CvModel.Deps
import CvProps.C13Lemmas
/-!
# C13 — the dependency engine: table obligations (regenerated from the source) and properties of enable / disable

Property theorems about `CvModel/Deps.lean` and the generated tables `CvModel/Gen/Deps.lean`; core Lean only.
-/
open Cv Cv.Deps Cv.Gen

namespace Cv.C13

/-! ## the feature tables (`./check C13` regenerates them from the source and decides these again on every run) -/

def tables : List (List FeatureDecl) := [biasFeatures, colvarFeatures, cvcFeatures, agFeatures]

/-- every feature has been given a type by `init_feature` -/
def allInitialised (t : List FeatureDecl) : Bool := t.all fun d => d.ftype < 3

/-- every index mentioned by a declaration exists (children requirements refer to the child class's table) -/
def inRange (t child : List FeatureDecl) : Bool :=
  t.all fun d => d.self.all (· < t.length) && d.alt.all (fun a => a.all (· < t.length)) &&
    d.excl.all (· < t.length) && d.children.all (· < child.length)

/-- exclusions are declared symmetrically, so whichever feature is enabled second fails -/
def exclSymmetric (t : List FeatureDecl) : Bool :=
  (List.range t.length).all fun f => ((t.getD f default).excl).all fun g => ((t.getD g default).excl).contains f
where default : FeatureDecl := { name := "", ftype := 3, self := [], alt := [], children := [], excl := [] }

/-- successors of a feature inside its own object: `requires_self` and every alternative of `requires_alt` -/
def succs (t : List FeatureDecl) (f : Nat) : List Nat :=
  match t[f]? with
  | some d => d.self ++ d.alt.flatten
  | none => []

/-- features reachable in at most `n` steps from a list of features -/
def reachN (t : List FeatureDecl) : Nat → List Nat → List Nat
  | 0, l => l
  | n + 1, l => l ++ reachN t n (l.flatMap (succs t))

/-- no feature depends on itself through `requires_self` / `requires_alt` chains: the recursion of `enable` inside one
    object terminates (the code's own comment notes there is no safety mechanism against such cycles) -/
def acyclic (t : List FeatureDecl) : Bool :=
  (List.range t.length).all fun f => !(reachN t t.length (succs t f)).contains f

theorem tables_initialised : tables.all allInitialised = true := by decide

theorem tables_in_range :
    (inRange biasFeatures colvarFeatures && inRange colvarFeatures cvcFeatures &&
     inRange cvcFeatures agFeatures && inRange agFeatures []) = true := by decide

theorem tables_excl_symmetric : tables.all exclSymmetric = true := by decide

-- `+kernel`: plain `decide` evaluates the tables twice (elaborator, then kernel)
theorem tables_acyclic : tables.all acyclic = true := by decide +kernel

/-- the first feature of every class is the dynamic "active" feature that `is_enabled()` tests -/
theorem tables_active_first : tables.all (fun t => (t.head?.map (·.ftype)) == some 0) = true := by decide

/-! ## single calls of `enable`, `disable`, `decr` -/

/-- a dry run (outside an error report) never changes anything -/
theorem enable_dry_pure (fuel : Nat) (F : Forest) (o f : Nat) (tl : Bool) :
    (enable fuel F o f true tl false).1 = F := by
  induction fuel generalizing F o f tl with
  | zero => rw [enable]
  | succ n ih =>
    have h1 := dry_self_fold n ih F o
    have h2 := dry_alt_fold n ih F o f
    have h3 := dry_children_fold n ih F o
    rw [enable]
    -- the exits in the order of the body
    refine ite_fst (by simp) (ite_fst rfl (ite_fst rfl (ite_fst rfl (ite_fst (h1 _ _ rfl) (ite_fst (h2 _ _ (h1 _ _ rfl))
      (ite_fst (h3 _ _ (h2 _ _ (h1 _ _ rfl))) ?_))))))
    rw [if_pos rfl]
    exact h3 _ _ (h2 _ _ (h1 _ _ rfl))

/-- enabling a feature that conflicts with an enabled one fails and leaves everything as it was:
    mutually exclusive capabilities are never enabled together by `enable` -/
theorem enable_excluded_fails (fuel : Nat) (F : Forest) (o f : Nat) (dry tl err : Bool)
    (hne : (getF F o f).enabled = false) (hav : (getF F o f).available = true)
    (hty : tl = true ∨ (decl (clsOf F o) f).ftype = 0)
    (hex : (decl (clsOf F o) f).excl.any (isEnabled F o) = true) :
    enable (fuel + 1) F o f dry tl err = (F, false) := by
  rw [enable]
  rcases hty with h | h <;> simp [hne, hav, h, hex]

/-- an unavailable feature cannot be enabled -/
theorem enable_unavailable_fails (fuel : Nat) (F : Forest) (o f : Nat) (dry tl err : Bool)
    (hne : (getF F o f).enabled = false) (hav : (getF F o f).available = false) :
    enable (fuel + 1) F o f dry tl err = (F, false) := by
  rw [enable]; simp [hne, hav]

/-- static and user features are never switched on as a side effect of a dependency -/
theorem enable_nondynamic_not_automatic (fuel : Nat) (F : Forest) (o f : Nat) (dry err : Bool)
    (hne : (getF F o f).enabled = false) (hav : (getF F o f).available = true)
    (hty : (decl (clsOf F o) f).ftype ≠ 0) :
    enable (fuel + 1) F o f dry false err = (F, false) := by
  rw [enable]; simp [hne, hav, hty]

/-- an already enabled feature requested by a dependant gains one reference -/
theorem enable_counts_reference (fuel : Nat) (F : Forest) (o f : Nat) (err : Bool) (he : (getF F o f).enabled = true) :
    enable (fuel + 1) F o f false false err = (setF F o f { (getF F o f) with refCount := (getF F o f).refCount + 1 }, true) := by
  rw [enable]; simp [he]

/-- no capability is switched off while more than one dependant still needs it -/
theorem disable_refuses_when_needed (fuel : Nat) (F : Forest) (o f : Nat)
    (he : (getF F o f).enabled = true) (hr : (getF F o f).refCount > 1) :
    disable (fuel + 1) F o f = (F, false) := by
  rw [disable]; simp [he, hr]

/-- releasing one of several references only decrements the count -/
theorem decr_keeps_enabled (fuel : Nat) (F : Forest) (o g : Nat) (hr : (getF F o g).refCount > 1) :
    decr (fuel + 1) F o g = setF F o g { (getF F o g) with refCount := (getF F o g).refCount - 1 } :=
  decr_eq_setF fuel F o g (by omega) fun h => by omega

/-- a static or user feature is never switched off by losing its last dependant -/
theorem decr_nondynamic_stays (fuel : Nat) (F : Forest) (o g : Nat) (hr : (getF F o g).refCount > 0)
    (hty : (decl (clsOf F o) g).ftype ≠ 0) :
    decr (fuel + 1) F o g = setF F o g { (getF F o g) with refCount := (getF F o g).refCount - 1 } :=
  decr_eq_setF fuel F o g hr fun h => hty h.2

/-! ## non-vacuity -/

example : (decl 0 5).name = "f_cvb_get_total_force" ∧ (decl 0 5).excl.contains 4 = true := by decide

end Cv.C13
