import CvProps.ModuleLemmas
import CvProps.C04Lemmas
/-!
# Helper lemmas for C08 (superposition of biases, time-step factor)

The outputs of a step as sums over its biases (`modStep_energy`, `modStep_force`); a harmonic restraint on one variable;
a factor `n` over `n` steps.
-/
open Cv

namespace Cv.C08

/-! ## a step as a sum over its biases -/

/-- the total an association list holds for key `k` (what `lookupF` finds after the entries are added with `addAssoc`) -/
noncomputable def kvSum (kvs : List (Nat × ℝ)) (k : Nat) : ℝ := (kvs.map fun kv => if kv.1 = k then kv.2 else 0).sum

theorem kvSum_nil (k : Nat) : kvSum [] k = 0 := by simp [kvSum]

theorem lookupF_fold_upd (upd : List Upd) (acc : List (Nat × ℝ)) (k : Nat) :
    lookupF (upd.foldl (fun acc x => x.2.2.2.foldl (fun a (kv : Nat × ℝ) => addAssoc a kv.1 kv.2) acc) acc) k =
      lookupF acc k + (upd.map fun x => kvSum x.2.2.2 k).sum := by
  induction upd generalizing acc with
  | nil => simp
  | cons x r ih => rw [List.foldl_cons, ih, lookupF_foldl_addAssoc, List.map_cons, List.sum_cons, add_assoc]; rfl

theorem lookupF_fbOf (upd : List Upd) (k : Nat) : lookupF (fbOf upd) k = (upd.map fun x => kvSum x.2.2.2 k).sum := by
  unfold fbOf; rw [lookupF_fold_upd, lookupF_nil, zero_add]

/-- what one bias adds to the energy the engine is told -/
noncomputable def energyOf (x : Upd) : ℝ := if x.2.1.applies then x.2.2.1 else 0

/-- what the forces `kvs` of one bias add to the force on atom `a` (`atoms`: each variable's atom) -/
noncomputable def forceOn (atoms : List Nat) (kvs : List (Nat × ℝ)) (a : Nat) : ℝ :=
  (((List.range atoms.length).zip atoms).map fun (ia : Nat × Nat) => if ia.2 = a then kvSum kvs ia.1 else 0).sum

theorem forceOn_zero {atoms : List Nat} {kvs : List (Nat × ℝ)} (h : ∀ k, kvSum kvs k = 0) (a : Nat) :
    forceOn atoms kvs a = 0 := by
  simp [forceOn, h]

theorem forceOn_single (a : Nat) (F : ℝ) : forceOn [a] [(0, F)] a = F := by simp [forceOn, kvSum]

theorem forceOn_nil (atoms : List Nat) (a : Nat) : forceOn atoms [] a = 0 := forceOn_zero kvSum_nil a

theorem modStep_energy (m : Sys ℝ) (i : StepIn ℝ) : (modStep m i).2.energy = ((updAt m i).map energyOf).sum := by
  rw [modStep_eq_at, sumL_eq_sum, lit_zero]
  rfl

theorem sum_ite_sum {ι κ : Type} (l : List ι) (u : List κ) (p : ι → Prop) [DecidablePred p] (g : κ → ι → ℝ) :
    (l.map fun j => if p j then (u.map (g · j)).sum else 0).sum =
      (u.map fun x => (l.map fun j => if p j then g x j else 0).sum).sum := by
  induction u with
  | nil => simp
  | cons x r ih =>
    rw [List.map_cons, List.sum_cons, ← ih, ← List.sum_map_add]
    refine congrArg _ (List.map_congr_left fun j _ => ?_)
    split_ifs <;> simp

theorem modStep_force (m : Sys ℝ) (i : StepIn ℝ) (a : Nat) :
    lookupF (modStep m i).2.atomF a = ((updAt m i).map fun x => forceOn (m.cvs.map (·.atom)) x.2.2.2 a).sum := by
  rw [modStep_atomF, atomFOf_setF, lookupF_foldl_addAssoc, lookupF_nil, zero_add, cvsAt_length,
    show (cvsAt m i).map (·.atom) = m.cvs.map (·.atom) from List.map_map]
  simp only [lookupF_fbOf, forceOn, List.length_map]
  exact sum_ite_sum _ _ _ _

theorem single_contributes_nothing {m : Sys ℝ} {i : StepIn ℝ} {nb : String × Bias ℝ} (hb : m.biases = [nb]) {x : Upd}
    (hx : updOne m (m.clock.tick i.cont) (cvsAt m i) nb = x) (he : energyOf x = 0) (hk : ∀ k, kvSum x.2.2.2 k = 0) :
    (modStep m i).2.energy = 0 ∧ ∀ a, lookupF (modStep m i).2.atomF a = 0 := by
  have hU : updAt m i = [x] := by rw [updAt, hb, List.map_singleton, hx]
  refine ⟨?_, fun a => ?_⟩
  · rw [modStep_energy, hU, List.map_singleton, List.sum_singleton, he]
  · rw [modStep_force, hU, List.map_singleton, List.sum_singleton, forceOn_zero hk]

theorem energyOf_zero (name : String) (b : Bias ℝ) (kvs : List (Nat × ℝ)) : energyOf (name, b, 0.0, kvs) = 0 := by
  simp [energyOf, lit_zero]

/-! ## what single biases hand out -/

theorem updOne_hist (m : Sys ℝ) (c : Clock) (cvs : List (CvSt ℝ)) (name : String) (idx : List Nat) (g : GridDef ℝ)
    (sz : Bool) (d : List ℝ) : ∃ b', updOne m c cvs (name, .hist idx g sz d) = (name, (b', 0.0, [])) := by
  simp only [updOne]
  split
  · exact ⟨_, rfl⟩
  · exact ⟨_, rfl⟩

theorem abfStep_off (p : AbfParams ℝ) (s : AbfState ℝ) (inp : AbfIn ℝ) (hoff : p.applyBias = false) :
    (abfStep p s inp).2 = List.replicate (nvars p) 0.0 := by
  rw [C04.abfStep_snd, hoff, Bool.false_and, if_neg Bool.false_ne_true]

theorem kvSum_zip_zeros (idx : List Nat) (n : Nat) (c : ℝ) (a : Nat) :
    kvSum ((idx.zip (List.replicate n (0.0 : ℝ))).map fun (kv : Nat × ℝ) => (kv.1, c * kv.2)) a = 0 := by
  unfold kvSum
  apply List.sum_eq_zero
  intro x hx
  obtain ⟨kv', hkv', rfl⟩ := List.mem_map.mp hx
  obtain ⟨kv, hkv, rfl⟩ := List.mem_map.mp hkv'
  have h0 : kv.2 = 0 := by
    have := List.eq_of_mem_replicate (List.of_mem_zip hkv).2
    rw [this, lit_zero]
  simp [h0]

theorem updOne_abf_off (m : Sys ℝ) (c : Clock) (cvs : List (CvSt ℝ)) (name : String) (idx : List Nat)
    (p : AbfParams ℝ) (s : AbfState ℝ) (hoff : p.applyBias = false) :
    ∃ s' e kvs, updOne m c cvs (name, .abf idx p s) = (name, (.abf idx p s', e, kvs)) ∧ ∀ k, kvSum kvs k = 0 := by
  by_cases hs : awake c (tsfOf m name) = true
  · refine ⟨_, _, _, updOne_awake m c cvs name _ hs, fun k => ?_⟩
    simp only [biasUpdate, abfStep_off _ _ _ hoff]
    exact kvSum_zip_zeros _ _ _ _
  · exact ⟨s, 0.0, [], updOne_asleep m c cvs name _ (Bool.eq_false_iff.2 hs), kvSum_nil⟩

/-! ## bias lists `A`, `B`, `A ++ B`: one step -/

theorem step_add (mAB mA mB : Sys ℝ) (i : StepIn ℝ)
    (hb : mAB.biases = mA.biases ++ mB.biases)
    (hcA : mAB.cvs.map norm = mA.cvs.map norm) (hcB : mAB.cvs.map norm = mB.cvs.map norm)
    (hA : ∀ nb ∈ mA.biases, updOne mAB (mAB.clock.tick i.cont) (cvsAt mAB i) nb =
                            updOne mA (mA.clock.tick i.cont) (cvsAt mA i) nb)
    (hB : ∀ nb ∈ mB.biases, updOne mAB (mAB.clock.tick i.cont) (cvsAt mAB i) nb =
                            updOne mB (mB.clock.tick i.cont) (cvsAt mB i) nb) :
    (modStep mAB i).2.energy = (modStep mA i).2.energy + (modStep mB i).2.energy ∧
    (∀ a, lookupF (modStep mAB i).2.atomF a = lookupF (modStep mA i).2.atomF a + lookupF (modStep mB i).2.atomF a) ∧
    (modStep mAB i).1.biases = (modStep mA i).1.biases ++ (modStep mB i).1.biases := by
  have hU : updAt mAB i = updAt mA i ++ updAt mB i := by
    unfold updAt
    rw [hb, List.map_append, List.map_congr_left hA, List.map_congr_left hB]
  refine ⟨?_, fun a => ?_, ?_⟩
  · simp only [modStep_energy, hU, List.map_append, List.sum_append]
  · simp only [modStep_force, hU, ← atoms_of_norm_eq hcA, ← atoms_of_norm_eq hcB, List.map_append, List.sum_append]
  · simp only [modStep_biases, hU, List.map_append]

/-! ## whole histories, for biases that do not read total forces -/

theorem noTF_biasUpdate (m : Sys ℝ) (c : Clock) (cvs : List (CvSt ℝ)) (b : Bias ℝ) :
    noTF (biasUpdate m c cvs b).1 = noTF b := by
  cases b <;> rfl

theorem updOne_congr (m m' : Sys ℝ) (c : Clock) (cvs cvs' : List (CvSt ℝ)) (nb : String × Bias ℝ)
    (h : noTF nb.2 = true) (ht : m.tsf = m'.tsf) (hc : cvs.map norm = cvs'.map norm) :
    updOne m c cvs nb = updOne m' c cvs' nb := by
  unfold updOne tsfOf
  rw [ht, biasUpdate_congr m m' c cvs cvs' nb.2 h hc]

theorem noTF_updOne (m : Sys ℝ) (c : Clock) (cvs : List (CvSt ℝ)) (nb : String × Bias ℝ) :
    noTF (updOne m c cvs nb).2.1 = noTF nb.2 := by
  unfold updOne
  simp only
  split_ifs
  · exact noTF_biasUpdate _ _ _ _
  · rfl

/-- what a step keeps between systems that differ in their bias lists -/
structure Rel (m m' : Sys ℝ) : Prop where
  clock : m.clock = m'.clock
  tsf : m.tsf = m'.tsf
  cvs : m.cvs.map norm = m'.cvs.map norm

theorem Rel.step {m m' : Sys ℝ} (h : Rel m m') (i : StepIn ℝ) : Rel (modStep m i).1 (modStep m' i).1 where
  clock := by rw [modStep_clock, modStep_clock, h.clock]
  tsf := by rw [modStep_tsf, modStep_tsf, h.tsf]
  cvs := by rw [modStep_cvs_norm, modStep_cvs_norm, h.cvs]

theorem Rel.updOne {m m' : Sys ℝ} (h : Rel m m') (i : StepIn ℝ) (nb : String × Bias ℝ) (hn : noTF nb.2 = true) :
    updOne m (m.clock.tick i.cont) (cvsAt m i) nb = updOne m' (m'.clock.tick i.cont) (cvsAt m' i) nb := by
  rw [h.clock]
  apply updOne_congr _ _ _ _ _ _ hn h.tsf
  rw [cvsAt_norm, cvsAt_norm, h.cvs]

theorem noTF_step (m : Sys ℝ) (i : StepIn ℝ) (h : ∀ nb ∈ m.biases, noTF nb.2 = true) :
    ∀ nb ∈ (modStep m i).1.biases, noTF nb.2 = true := by
  intro nb hnb
  rw [modStep_biases, updAt, List.map_map] at hnb
  obtain ⟨nb0, h0, rfl⟩ := List.mem_map.mp hnb
  simp only [Function.comp]
  rw [noTF_updOne]
  exact h nb0 h0

/-- run a history; `C08.runSys` is the same (`runSys_eq_runL`) -/
noncomputable def runL (m : Sys ℝ) : List (StepIn ℝ) → Sys ℝ × List (StepOut ℝ)
  | [] => (m, [])
  | i :: is =>
    let (m1, o) := modStep m i
    let (m2, os) := runL m1 is
    (m2, o :: os)

theorem runL_nil (m : Sys ℝ) : (runL m []).2 = [] := rfl
theorem runL_cons (m : Sys ℝ) (i : StepIn ℝ) (is : List (StepIn ℝ)) :
    (runL m (i :: is)).2 = (modStep m i).2 :: (runL (modStep m i).1 is).2 := rfl

theorem runL_length (h : List (StepIn ℝ)) : ∀ m : Sys ℝ, (runL m h).2.length = h.length := by
  induction h with
  | nil => intro m; rfl
  | cons i is ih => intro m; rw [runL_cons, List.length_cons, ih, List.length_cons]

theorem run_add (h : List (StepIn ℝ)) : ∀ (mAB mA mB : Sys ℝ),
    mAB.biases = mA.biases ++ mB.biases → Rel mAB mA → Rel mAB mB →
    (∀ nb ∈ mA.biases, noTF nb.2 = true) → (∀ nb ∈ mB.biases, noTF nb.2 = true) →
    ∀ t, t < h.length →
      ((runL mAB h).2.getD t ⟨0, []⟩).energy =
        ((runL mA h).2.getD t ⟨0, []⟩).energy + ((runL mB h).2.getD t ⟨0, []⟩).energy ∧
      ∀ a, lookupF ((runL mAB h).2.getD t ⟨0, []⟩).atomF a =
           lookupF ((runL mA h).2.getD t ⟨0, []⟩).atomF a + lookupF ((runL mB h).2.getD t ⟨0, []⟩).atomF a := by
  induction h with
  | nil => intro _ _ _ _ _ _ _ _ t ht; simp at ht
  | cons i is ih =>
    intro mAB mA mB hb rA rB nA nB t ht
    have hs := step_add mAB mA mB i hb rA.cvs rB.cvs
      (fun nb hnb => rA.updOne i nb (nA nb hnb)) (fun nb hnb => rB.updOne i nb (nB nb hnb))
    simp only [runL_cons]
    cases t with
    | zero =>
      simp only [List.getD_cons_zero]
      exact ⟨hs.1, hs.2.1⟩
    | succ t =>
      simp only [List.getD_cons_succ]
      exact ih _ _ _ hs.2.2 (rA.step i) (rB.step i) (noTF_step _ i nA) (noTF_step _ i nB) t
        (by simpa using ht)

/-! ## a harmonic restraint on the one variable -/

/-- instantaneous force of the harmonic restraint on variable `v` at input `i` -/
noncomputable def hF (v : CvSt ℝ) (i : StepIn ℝ) (k c : ℝ) : ℝ :=
  -0.5 * k / (v.width * v.width) * dist2SGrad v.per (xOf i v) c

theorem harm_updAt (m : Sys ℝ) (i : StepIn ℝ) (name : String) (k c : ℝ) (v : CvSt ℝ)
    (hcv : m.cvs = [v]) (hb : m.biases = [(name, .harm [0] k [c])]) :
    ∃ e, updAt m i = [(name, (.harm [0] k [c], e,
      if awake (m.clock.tick i.cont) (tsfOf m name) then [(0, ((tsfOf m name : Int) : ℝ) * hF v i k c)] else []))] := by
  rw [updAt, hb, List.map_singleton, cvsAt, hcv, List.map_singleton]
  by_cases ha : awake (m.clock.tick i.cont) (tsfOf m name) = true
  · rw [updOne_awake _ _ _ _ _ ha, if_pos ha]
    refine ⟨_, congrArg (fun f => [(name, Bias.harm [0] k [c], _, f)]) ?_⟩
    -- the forces of the bias on the one variable `cvUpdate .. v`, whose value is `xOf i v`
    rw [hF, ← cvUpdate_x m (m.clock.tick i.cont) i v]
    rfl
  · rw [updOne_asleep _ _ _ _ _ (Bool.eq_false_iff.2 ha), if_neg ha]
    exact ⟨0.0, rfl⟩

theorem harm_step (m : Sys ℝ) (i : StepIn ℝ) (name : String) (k c : ℝ) (v : CvSt ℝ)
    (hcv : m.cvs = [v]) (hb : m.biases = [(name, .harm [0] k [c])]) :
    lookupF (modStep m i).2.atomF v.atom =
      (if awake (m.clock.tick i.cont) (tsfOf m name) then ((tsfOf m name : Int) : ℝ) * hF v i k c else 0) ∧
    (modStep m i).1.biases = [(name, .harm [0] k [c])] := by
  obtain ⟨e, hU⟩ := harm_updAt m i name k c v hcv hb
  constructor
  · rw [modStep_force, hU, hcv, List.map_singleton, List.sum_singleton, List.map_singleton]
    by_cases ha : awake (m.clock.tick i.cont) (tsfOf m name) = true
    · rw [if_pos ha, if_pos ha]; exact forceOn_single _ _
    · rw [if_neg ha, if_neg ha]; exact forceOn_nil _ _
  · rw [modStep_biases, hU]; rfl

/-! ## the same input repeated -/

theorem hF_eq_of_normX_eq (i : StepIn ℝ) (k c : ℝ) (v0 v : CvSt ℝ) (h : normX i (norm v0) = normX i (norm v)) :
    hF v0 i k c = hF v i k c := by
  have hw : v0.width = v.width := (congrArg CvSt.width h :)
  have hp : v0.per = v.per := (congrArg CvSt.per h :)
  have hx : xOf i (norm v0) = xOf i (norm v) := (congrArg CvSt.x h :)
  rw [xOf_norm, xOf_norm] at hx
  unfold hF
  rw [hw, hp, hx]

/-- the clock `t` steps after counter `it`; only `awake` reads it (counter alone): `itRestart := 0` is a filler -/
def clockAt (it : Int) (t : Nat) : Clock := { it := it + 1 + (t : Int), itRestart := 0, first := false, cont := false }

theorem clockAt_succ (it : Int) (t : Nat) : clockAt (it + 1) t = clockAt it (t + 1) := by
  simp only [clockAt, Nat.cast_add, Nat.cast_one, Clock.mk.injEq, and_true]; ring

theorem harm_run (name : String) (k c : ℝ) (v : CvSt ℝ) (i : StepIn ℝ) (hi : i.cont = false) (N : Int) :
    ∀ (j : Nat) (m : Sys ℝ) (v0 : CvSt ℝ), m.cvs = [v0] → normX i (norm v0) = normX i (norm v) →
      m.biases = [(name, .harm [0] k [c])] → m.clock.first = false → tsfOf m name = N →
      (runL m (List.replicate j i)).2.map (fun o => lookupF o.atomF v.atom) =
        (List.range j).map fun (t : Nat) => if awake (clockAt m.clock.it t) N then (N : ℝ) * hF v i k c else 0 := by
  intro j
  induction j with
  | zero => intro m v0 _ _ _ _ _; rfl
  | succ j ih =>
    intro m v0 hcv hst hb hf hN
    -- invariant: one variable that `normX i ∘ norm` sends where it sends `v` (so each step computes `hF v`), the same
    -- bias, a running clock
    have hs := harm_step m i name k c v0 hcv hb
    have hat : v0.atom = v.atom := (congrArg CvSt.atom hst :)
    have htick : m.clock.tick i.cont = { m.clock with it := m.clock.it + 1, cont := false } := by
      rw [hi, tick_running _ hf]
    obtain ⟨v1, hcv1, hn1⟩ : ∃ v1, (modStep m i).1.cvs = [v1] ∧ norm v1 = normX i (norm v0) := by
      have := modStep_cvs_norm m i
      rw [hcv] at this
      exact List.map_eq_singleton_iff.mp this
    have hst1 : normX i (norm v1) = normX i (norm v) := by rw [hn1, normX_idem, hst]
    have hc1 : (modStep m i).1.clock = { m.clock with it := m.clock.it + 1, cont := false } := htick
    -- first output: `harm_step`; the others: the induction hypothesis from the next state
    rw [List.replicate_succ, runL_cons, List.map_cons, ih _ v1 hcv1 hst1 hs.2 (by rw [hc1]; exact hf) hN, hc1,
      ← hat, hs.1, hN, hF_eq_of_normX_eq i k c v0 v hst]
    rw [List.range_succ_eq_map, List.map_cons, List.map_map]
    refine congrArg₂ _ ?_ (List.map_congr_left fun t _ => by rw [Function.comp, clockAt_succ])
    -- `awake` reads the counter only
    rw [awake_def, awake_def, htick]
    simp [clockAt]

/-! ## a factor `n` over a window of `n` steps -/

theorem sum_first (n : Nat) (hn : 1 ≤ n) (f : Nat → ℝ) (h : ∀ t, 0 < t → t < n → f t = 0) :
    ((List.range n).map f).sum = f 0 := by
  obtain ⟨k, rfl⟩ := Nat.exists_eq_add_one_of_ne_zero (Nat.ne_zero_of_lt hn)
  rw [List.sum_range_succ', List.sum_eq_zero, add_zero]
  intro x hx
  obtain ⟨t, ht, rfl⟩ := List.mem_map.mp hx
  exact h (t + 1) t.succ_pos (Nat.succ_lt_succ (List.mem_range.mp ht))

theorem tmod_shift_ne (a n t : Int) (h : Int.tmod a n = 0) (h0 : 0 < t) (h1 : t < n) : Int.tmod (a + t) n ≠ 0 := by
  intro h2
  have d1 := Int.dvd_of_tmod_eq_zero h
  have d2 := Int.dvd_of_tmod_eq_zero h2
  have d3 : n ∣ t := (Int.dvd_add_right d1).mp d2
  have := Int.le_of_dvd h0 d3
  omega

theorem awake_window {n : Nat} {it : Int} (hit : Int.tmod (it + 1) n = 0) {t : Nat} (ht : t < n) :
    awake (clockAt it t) n = true ↔ n ≤ 1 ∨ t = 0 := by
  rw [awake_def, Bool.or_eq_true, decide_eq_true_eq, decide_eq_true_eq]
  refine or_congr Nat.cast_le_one ⟨fun h => ?_, fun h => by rw [h]; simpa [clockAt] using hit⟩
  by_contra h0
  exact tmod_shift_ne (it + 1) n t hit (by omega) (by omega) h

theorem sum_awake_window {n : Nat} (hn : 1 ≤ n) {it : Int} (hit : Int.tmod (it + 1) n = 0) (G : ℝ) :
    ((List.range n).map fun t => if awake (clockAt it t) n then G else 0).sum = G := by
  rw [sum_first n hn]
  · exact if_pos ((awake_window hit (by omega)).2 (Or.inr rfl))
  · intro t h0 ht
    exact if_neg fun h => by rcases (awake_window hit ht).1 h with h | h <;> omega

end Cv.C08
