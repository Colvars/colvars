import CvProps.Base
/-!
# Helper lemmas for C04 (ABF), namespace `Cv.C04`

What a step does to the count and gradient arrays, entry by entry, organised around `accEv`.
-/
open Cv

namespace Cv.C04

/-! ## what one sample adds to the grids (`subAt`, `accForce`) -/

theorem subAt_nil (data : List ℝ) (base : Nat) : subAt data base [] = data := rfl
theorem subAt_cons (data : List ℝ) (base : Nat) (f : ℝ) (fs : List ℝ) :
    subAt data base (f :: fs) = subAt (data.modify base (· - f)) (base + 1) fs := rfl

theorem subAt_length : ∀ (fs : List ℝ) (data : List ℝ) (base : Nat),
    (subAt data base fs).length = data.length
  | [], _, _ => rfl
  | f :: fs, data, base => by
    rw [subAt_cons, subAt_length fs, List.length_modify]

theorem subAt_getD : ∀ (fs data : List ℝ) (base k : Nat), k < data.length →
    (subAt data base fs).getD k 0 = data.getD k 0 - (if base ≤ k then fs.getD (k - base) 0 else 0)
  | [], data, base, k, _ => by simp [subAt_nil]
  | f :: fs, data, base, k, hk => by
    rw [subAt_cons, subAt_getD fs _ (base + 1) k (by rw [List.length_modify]; exact hk), getD_modify _ _ _ _ _ hk]
    rcases Nat.lt_trichotomy base k with h | rfl | h
    · rw [if_neg (by omega), if_pos (by omega), if_pos (by omega), show k - base = (k - (base + 1)) + 1 by omega,
        List.getD_cons_succ]
    · rw [if_pos rfl, if_neg (by omega), if_pos (le_refl _), Nat.sub_self, List.getD_cons_zero]
      ring
    · rw [if_neg (by omega), if_neg (by omega), if_neg (by omega)]

theorem bin_window (a a' nd j : Nat) (hj : j < nd) :
    (a' * nd ≤ a * nd + j ∧ a * nd + j < (a' + 1) * nd) ↔ a' = a := by
  have ha : a * nd + j < (a + 1) * nd := by rw [Nat.add_mul, Nat.one_mul]; omega
  constructor
  · rintro ⟨h1, h2⟩
    rw [← Nat.div_eq_of_lt_le h1 h2, Nat.div_eq_of_lt_le (Nat.le_add_right _ _) ha]
  · rintro rfl
    exact ⟨Nat.le_add_right _ _, ha⟩

theorem entry_lt (a n nd j : Nat) (ha : a < n) (hj : j < nd) : a * nd + j < n * nd := by
  have : (a + 1) * nd ≤ n * nd := Nat.mul_le_mul_right nd ha
  rw [Nat.add_mul, Nat.one_mul] at this
  omega

theorem accForce_samples (p : AbfParams ℝ) (s : AbfState ℝ) (ix : List Int) (fs : List ℝ) :
    (accForce p s ix fs).samples = s.samples.modify (address 1 p.g.nx ix).toNat (· + 1) := rfl
theorem accForce_grad (p : AbfParams ℝ) (s : AbfState ℝ) (ix : List Int) (fs : List ℝ) :
    (accForce p s ix fs).grad = subAt s.grad ((address 1 p.g.nx ix).toNat * nvars p) fs := rfl
theorem accForce_forceBin (p : AbfParams ℝ) (s : AbfState ℝ) (ix : List Int) (fs : List ℝ) :
    (accForce p s ix fs).forceBin = s.forceBin := rfl
theorem accForce_lastForce (p : AbfParams ℝ) (s : AbfState ℝ) (ix : List Int) (fs : List ℝ) :
    (accForce p s ix fs).lastForce = s.lastForce := rfl

theorem accForce_grad_getD (p : AbfParams ℝ) (s : AbfState ℝ) (ix : List Int) (fs : List ℝ)
    (a j : Nat) (hg : s.grad.length = s.samples.length * nvars p) (ha : a < s.samples.length)
    (hj : j < nvars p) (hl : fs.length ≤ nvars p) :
    (accForce p s ix fs).grad.getD (a * nvars p + j) 0 =
      s.grad.getD (a * nvars p + j) 0 -
        if (address 1 p.g.nx ix).toNat = a then fs.getD j 0 else 0 := by
  rw [accForce_grad, subAt_getD _ _ _ _ (by rw [hg]; exact entry_lt _ _ _ _ ha hj)]
  congr 1
  by_cases h : (address 1 p.g.nx ix).toNat = a
  · rw [if_pos h, h, if_pos (Nat.le_add_right _ _), Nat.add_sub_cancel_left]
  · rw [if_neg h]
    split_ifs with hle
    · -- a bin further down: the entry lies past the at most `nvars p` entries of `fs`
      have hw : ¬ a * nvars p + j < ((address 1 p.g.nx ix).toNat + 1) * nvars p :=
        fun hlt => h ((bin_window _ _ _ _ hj).1 ⟨hle, hlt⟩)
      rw [Nat.add_mul, Nat.one_mul] at hw
      rw [List.getD_eq_getElem?_getD, List.getElem?_eq_none (by omega)]
      rfl
    · rfl

/-! ## which sample a step records (`systemForce`, `abfEvent`) -/

theorem systemForce_length_le (p : AbfParams ℝ) (s : AbfState ℝ) (ft : List ℝ) :
    (systemForce p s ft).length ≤ p.subtract.length := by
  unfold systemForce
  rw [List.length_map, List.length_zip]
  exact Nat.min_le_right _ _

theorem systemForce_current (p : AbfParams ℝ) (s : AbfState ℝ) (ft : List ℝ)
    (hl : p.tfCurrent = true) (h1 : ft.length ≤ s.lastForce.length)
    (h2 : ft.length ≤ p.subtract.length) : systemForce p s ft = ft := by
  have e : systemForce p s ft = ((List.zip (List.zip ft s.lastForce) p.subtract).map Prod.fst).map Prod.fst := by
    rw [List.map_map, systemForce]
    refine List.map_congr_left fun ⟨⟨f, l⟩, sub⟩ _ => ?_
    show (if (sub || p.tfCurrent) = true then f else f - l) = f
    rw [hl, Bool.or_true, if_pos rfl]
  rw [e, List.map_fst_zip (by rw [List.length_zip]; omega), List.map_fst_zip h1]

theorem systemForce_late (p : AbfParams ℝ) (s : AbfState ℝ) (ft : List ℝ) (hl : p.tfCurrent = false) :
    systemForce p s ft =
      (List.zip (List.zip ft s.lastForce) p.subtract).map
        fun ((f, l), sub) => if sub then f else f - l := by
  unfold systemForce
  apply List.map_congr_left
  rintro ⟨⟨f, l⟩, sub⟩ _
  simp [hl]

theorem abfEvent_eq (p : AbfParams ℝ) (s : AbfState ℝ) (i : AbfIn ℝ) :
    abfEvent p s i =
      if (i.elig && p.updateBias && i.timingOk &&
          indexOk p.g.nx (if p.tfCurrent then binsOf p.g i.xs else s.forceBin)) = true
      then some (if p.tfCurrent then binsOf p.g i.xs else s.forceBin, systemForce p s i.ft)
      else none := rfl

theorem abfEvent_some (p : AbfParams ℝ) (s : AbfState ℝ) (i : AbfIn ℝ) (e : List Int × List ℝ)
    (h : abfEvent p s i = some e) : e.2 = systemForce p s i.ft ∧ indexOk p.g.nx e.1 = true := by
  rw [abfEvent_eq] at h
  by_cases hc : (i.elig && p.updateBias && i.timingOk &&
      indexOk p.g.nx (if p.tfCurrent then binsOf p.g i.xs else s.forceBin)) = true
  · rw [if_pos hc] at h
    cases h
    simp only [Bool.and_eq_true] at hc
    exact ⟨rfl, hc.2⟩
  · rw [if_neg hc] at h
    cases h

theorem abfEvent_congr (p : AbfParams ℝ) (s s' : AbfState ℝ) (i : AbfIn ℝ)
    (h1 : s.forceBin = s'.forceBin) (h2 : s.lastForce = s'.lastForce) :
    abfEvent p s i = abfEvent p s' i := by
  rw [abfEvent_eq, abfEvent_eq, h1]
  unfold systemForce
  rw [h2]

/-! ## a step accumulates an optional event (`accEv`, `eventsAt`) -/

/-- The state with the sample recorded at a step, if any, accumulated: `abfStep` is `accEv` of `abfEvent` with the bin and the
    force remembered (`abfStep_fst`), so a run accumulates the events of `abfEvents` one by one. -/
noncomputable def accEv (p : AbfParams ℝ) (s : AbfState ℝ) : Option (List Int × List ℝ) → AbfState ℝ
  | some e => accForce p s e.1 e.2
  | none => s

/-- events attributed to the bin with address `a` -/
noncomputable def eventsAt (p : AbfParams ℝ) (a : Nat) (ev : List (List Int × List ℝ)) : List (List Int × List ℝ) :=
  ev.filter fun e => decide ((address 1 p.g.nx e.1).toNat = a)

theorem eventsAt_append (p : AbfParams ℝ) (a : Nat) (l₁ l₂ : List (List Int × List ℝ)) :
    eventsAt p a (l₁ ++ l₂) = eventsAt p a l₁ ++ eventsAt p a l₂ := List.filter_append ..

theorem accEv_some (p : AbfParams ℝ) (s : AbfState ℝ) (e : List Int × List ℝ) :
    accEv p s (some e) = accForce p s e.1 e.2 := rfl

theorem eventsAt_some (p : AbfParams ℝ) (a : Nat) (e : List Int × List ℝ) :
    eventsAt p a (some e).toList = if (address 1 p.g.nx e.1).toNat = a then [e] else [] := by
  rw [eventsAt, Option.toList_some, List.filter_singleton, cond_eq_ite]
  simp only [decide_eq_true_eq]

theorem abfStep_snd (p : AbfParams ℝ) (s : AbfState ℝ) (i : AbfIn ℝ) :
    (abfStep p s i).2 =
      if (p.applyBias && indexOk p.g.nx (binsOf p.g i.xs)) = true
      then biasingForce p (accEv p s (abfEvent p s i)) (binsOf p.g i.xs)
      else List.replicate (nvars p) 0.0 := by
  unfold abfStep accEv
  cases abfEvent p s i <;> rfl

theorem abfStep_fst (p : AbfParams ℝ) (s : AbfState ℝ) (i : AbfIn ℝ) :
    (abfStep p s i).1 =
      { accEv p s (abfEvent p s i) with forceBin := binsOf p.g i.xs, lastForce := (abfStep p s i).2 } := by
  unfold abfStep accEv
  cases abfEvent p s i <;> rfl

theorem abfStep_lastForce (p : AbfParams ℝ) (s : AbfState ℝ) (i : AbfIn ℝ) :
    (abfStep p s i).1.lastForce = (abfStep p s i).2 := rfl

theorem abfStep_forceBin (p : AbfParams ℝ) (s : AbfState ℝ) (i : AbfIn ℝ) :
    (abfStep p s i).1.forceBin = binsOf p.g i.xs := rfl

theorem accEv_samples_length (p : AbfParams ℝ) (s : AbfState ℝ) (ev : Option (List Int × List ℝ)) :
    (accEv p s ev).samples.length = s.samples.length := by
  cases ev with
  | none => rfl
  | some e => rw [accEv_some, accForce_samples, List.length_modify]

theorem accEv_grad_length (p : AbfParams ℝ) (s : AbfState ℝ) (ev : Option (List Int × List ℝ)) :
    (accEv p s ev).grad.length = s.grad.length := by
  cases ev with
  | none => rfl
  | some e => rw [accEv_some, accForce_grad, subAt_length]

theorem abfStep_samples_length (p : AbfParams ℝ) (s : AbfState ℝ) (i : AbfIn ℝ) :
    (abfStep p s i).1.samples.length = s.samples.length := by
  rw [abfStep_fst]; exact accEv_samples_length p s _

theorem abfStep_grad_length (p : AbfParams ℝ) (s : AbfState ℝ) (i : AbfIn ℝ) :
    (abfStep p s i).1.grad.length = s.grad.length := by
  rw [abfStep_fst]; exact accEv_grad_length p s _

theorem accEv_samples_getD (p : AbfParams ℝ) (s : AbfState ℝ) (ev : Option (List Int × List ℝ))
    (a : Nat) (ha : a < s.samples.length) :
    (accEv p s ev).samples.getD a 0 = s.samples.getD a 0 + ((eventsAt p a ev.toList).length : Int) := by
  cases ev with
  | none => exact (add_zero _).symm
  | some e =>
    rw [accEv_some, accForce_samples, getD_modify _ _ _ _ _ ha, eventsAt_some]
    by_cases h : (address 1 p.g.nx e.1).toNat = a
    · rw [if_pos h, if_pos h]; rfl
    · rw [if_neg h, if_neg h]; exact (add_zero _).symm

theorem accEv_grad_getD (p : AbfParams ℝ) (s : AbfState ℝ) (ev : Option (List Int × List ℝ))
    (a j : Nat) (hg : s.grad.length = s.samples.length * nvars p) (ha : a < s.samples.length)
    (hj : j < nvars p) (hl : ∀ e, ev = some e → e.2.length ≤ nvars p) :
    (accEv p s ev).grad.getD (a * nvars p + j) 0 = s.grad.getD (a * nvars p + j) 0 -
      ((eventsAt p a ev.toList).map fun e => e.2.getD j 0).sum := by
  cases ev with
  | none => exact (sub_zero _).symm
  | some e =>
    rw [accEv_some, accForce_grad_getD p s e.1 e.2 a j hg ha hj (hl e rfl), eventsAt_some]
    by_cases h : (address 1 p.g.nx e.1).toNat = a
    · rw [if_pos h, if_pos h, List.map_singleton, List.sum_singleton]
    · rw [if_neg h, if_neg h]; rfl

/-! ## a history as a list of events: every bin after a run -/

theorem init_samples (p : AbfParams ℝ) : (AbfState.init p).samples = List.replicate (ntOf 1 p.g.nx).toNat 0 := rfl
theorem init_grad (p : AbfParams ℝ) :
    (AbfState.init p).grad = List.replicate ((ntOf 1 p.g.nx).toNat * nvars p) 0 := by
  rw [← lit_zero]; rfl
theorem init_lastForce (p : AbfParams ℝ) : (AbfState.init p).lastForce = List.replicate (nvars p) 0.0 := rfl

theorem abfRun_nil (p : AbfParams ℝ) (s : AbfState ℝ) : abfRun p s [] = (s, []) := rfl
theorem abfRun_cons_fst (p : AbfParams ℝ) (s : AbfState ℝ) (i : AbfIn ℝ) (is : List (AbfIn ℝ)) :
    (abfRun p s (i :: is)).1 = (abfRun p (abfStep p s i).1 is).1 := rfl

theorem abfEvents_nil (p : AbfParams ℝ) (s : AbfState ℝ) : abfEvents p s [] = [] := rfl
theorem abfEvents_cons (p : AbfParams ℝ) (s : AbfState ℝ) (i : AbfIn ℝ) (is : List (AbfIn ℝ)) :
    abfEvents p s (i :: is) = (abfEvent p s i).toList ++ abfEvents p (abfStep p s i).1 is := by
  rw [abfEvents]
  cases abfEvent p s i <;> rfl

theorem abfRun_samples_getD (p : AbfParams ℝ) (h : List (AbfIn ℝ)) (s : AbfState ℝ) (a : Nat) (ha : a < s.samples.length) :
    (abfRun p s h).1.samples.getD a 0 = s.samples.getD a 0 + ((eventsAt p a (abfEvents p s h)).length : Int) := by
  induction h generalizing s with
  | nil => simp [abfRun_nil, abfEvents_nil, eventsAt]
  | cons i is ih =>
    rw [abfRun_cons_fst, abfEvents_cons, ih _ (by rw [abfStep_samples_length]; exact ha), abfStep_fst,
      accEv_samples_getD p s _ a ha, eventsAt_append, List.length_append]
    push_cast
    ring

theorem abfRun_grad_getD (p : AbfParams ℝ) (hsub : p.subtract.length ≤ nvars p) (h : List (AbfIn ℝ)) (s : AbfState ℝ)
    (a j : Nat) (hg : s.grad.length = s.samples.length * nvars p) (ha : a < s.samples.length) (hj : j < nvars p) :
    (abfRun p s h).1.grad.getD (a * nvars p + j) 0 =
      s.grad.getD (a * nvars p + j) 0 - ((eventsAt p a (abfEvents p s h)).map fun e => e.2.getD j 0).sum := by
  induction h generalizing s with
  | nil => simp [abfRun_nil, abfEvents_nil, eventsAt]
  | cons i is ih =>
    rw [abfRun_cons_fst, abfEvents_cons,
      ih _ (by rw [abfStep_grad_length, abfStep_samples_length]; exact hg) (by rw [abfStep_samples_length]; exact ha),
      abfStep_fst, accEv_grad_getD p s _ a j hg ha hj, eventsAt_append, List.map_append, List.sum_append]
    · ring
    · intro e he
      rw [(abfEvent_some p s i e he).1]
      exact le_trans (systemForce_length_le p s _) hsub

/-! ## the biasing force: cap, ramp, lengths -/

theorem capForce_none (f : List ℝ) : capForce none f = f := rfl

theorem capForce_some (m f : List ℝ) : capForce (some m) f =
    List.zipWith (fun fi mi => if fi * fi > mi * mi then (if fi > 0.0 then mi else -1.0 * mi) else fi) f m := rfl

theorem capForce_length (mf : Option (List ℝ)) (f : List ℝ) :
    (capForce mf f).length = match mf with | none => f.length | some m => min f.length m.length := by
  cases mf with
  | none => rfl
  | some m => exact List.length_zipWith ..

theorem ramp_zero (p : AbfParams ℝ) (hf : p.minSamples < p.fullSamples) (n : Int)
    (h : n ≤ p.minSamples) : ramp p n = 0 := by
  unfold ramp
  rw [if_pos (by omega)]
  by_cases h1 : n < p.minSamples
  · rw [if_pos h1, lit_zero]
  · obtain rfl : n = p.minSamples := by omega
    rw [if_neg h1, sub_self, Int.cast_zero, zero_div]

theorem ramp_one (p : AbfParams ℝ) (n : Int) (h : p.fullSamples ≤ n) : ramp p n = 1 := by
  unfold ramp
  rw [if_neg (by omega)]
  norm_num

theorem ramp_mid (p : AbfParams ℝ) (n : Int) (h1 : p.minSamples ≤ n) (h2 : n < p.fullSamples) :
    ramp p n = ((n : ℝ) - p.minSamples) / ((p.fullSamples : ℝ) - p.minSamples) := by
  unfold ramp
  rw [if_pos h2, if_neg (by omega)]
  push_cast
  rfl

theorem ramp_bounds (p : AbfParams ℝ) (hf : p.minSamples < p.fullSamples) (n : Int) :
    0 ≤ ramp p n ∧ ramp p n ≤ 1 := by
  have hd : (0 : ℝ) < (p.fullSamples : ℝ) - p.minSamples := sub_pos.2 (Int.cast_lt.2 hf)
  by_cases h1 : n ≤ p.minSamples
  · rw [ramp_zero p hf n h1]; exact ⟨le_rfl, zero_le_one⟩
  · by_cases h2 : p.fullSamples ≤ n
    · rw [ramp_one p n h2]; exact ⟨zero_le_one, le_rfl⟩
    · rw [ramp_mid p n (by omega) (by omega), div_le_one hd]
      exact ⟨div_nonneg (sub_nonneg.2 (Int.cast_le.2 (by omega))) hd.le,
        sub_le_sub_right (Int.cast_le.2 (by omega)) _⟩

theorem ramp_mono (p : AbfParams ℝ) (hf : p.minSamples < p.fullSamples) (n m : Int) (h : n ≤ m) :
    ramp p n ≤ ramp p m := by
  have hd : (0 : ℝ) < (p.fullSamples : ℝ) - p.minSamples := sub_pos.2 (Int.cast_lt.2 hf)
  by_cases h1 : n ≤ p.minSamples
  · rw [ramp_zero p hf n h1]; exact (ramp_bounds p hf m).1
  · by_cases h2 : p.fullSamples ≤ m
    · rw [ramp_one p m h2]; exact (ramp_bounds p hf n).2
    · rw [ramp_mid p n (by omega) (by omega), ramp_mid p m (by omega) (by omega)]
      exact div_le_div_of_nonneg_right (sub_le_sub_right (Int.cast_le.2 h) _) hd.le

theorem biasingForce_eq (p : AbfParams ℝ) (s : AbfState ℝ) (bin : List Int) :
    biasingForce p s bin = capForce p.maxForce
      (if p.periodic1D = true then
        ((List.range (nvars p)).map fun i =>
          smoothInvWeight p (s.samples.getD (address 1 p.g.nx bin).toNat 0) *
            s.grad.getD ((address 1 p.g.nx bin).toNat * nvars p + i) 0.0).map
          (· - gridAverage s (p.g.nx.getD 0 1))
       else (List.range (nvars p)).map fun i =>
          smoothInvWeight p (s.samples.getD (address 1 p.g.nx bin).toNat 0) *
            s.grad.getD ((address 1 p.g.nx bin).toNat * nvars p + i) 0.0) := rfl

theorem biasingForce_length_eq (p : AbfParams ℝ) (s : AbfState ℝ) (bin : List Int) :
    (biasingForce p s bin).length = match p.maxForce with | none => nvars p | some m => min (nvars p) m.length := by
  rw [biasingForce_eq, capForce_length]
  cases p.periodic1D <;> simp only [Bool.false_eq_true, if_false, if_true, List.length_map, List.length_range]

theorem biasingForce_length (p : AbfParams ℝ) (s : AbfState ℝ) (bin : List Int)
    (hmf : ∀ m, p.maxForce = some m → nvars p ≤ m.length) :
    (biasingForce p s bin).length = nvars p := by
  rw [biasingForce_length_eq]
  cases hm : p.maxForce with
  | none => rfl
  | some m => exact Nat.min_eq_left (hmf m hm)

theorem biasingForce_length_le (p : AbfParams ℝ) (s : AbfState ℝ) (bin : List Int) :
    (biasingForce p s bin).length ≤ nvars p := by
  rw [biasingForce_length_eq]
  cases p.maxForce with
  | none => exact Nat.le_refl _
  | some m => exact Nat.min_le_left ..

end Cv.C04
