import CvProps.C11Lemmas
/-!
# C11 — binary stream round-trips and bounds; crash-consistent file replacement

Property theorems about `CvModel/MemStream.lean` and `CvModel/FileSys.lean` (core Lean, no Mathlib needed).
-/
open Cv Cv.MS

namespace Cv.C11

/-! ## exact round trip for every element size and length -/

/-- an empty writer with limit `maxLen` -/
def fresh (maxLen : Nat) : St := { maxLen := maxLen }

/-- writing then reading a trivially-copyable object returns its bytes, consumes exactly them, state good -/
theorem roundtrip_obj (bytes : List UInt8) (maxLen : Nat) (h : bytes.length ≤ maxLen) (h64 : maxLen < two64) :
    readObj (ofBytes (written (writeObj (fresh maxLen) bytes))) bytes.length =
      .ok { (ofBytes bytes) with rpos := bytes.length } bytes := by
  have hw : written (writeObj (fresh maxLen) bytes) = bytes := by
    rw [writeObj_eq _ _ rfl rfl (by simpa [fresh] using h)]
    simp [written, fresh]
  rw [hw, readObj_spec _ _ (Nat.le_refl _) (Nat.zero_le _) (show bytes.length < two64 by omega)]
  simp [ofBytes]

/-- a vector of `n` elements of size `esz` (any size ≥ 1, any length) is read back exactly -/
theorem roundtrip_vec (esz n : Nat) (bytes : List UInt8) (maxLen : Nat) (he : 0 < esz)
    (hb : bytes.length = n * esz) (h : 8 + bytes.length ≤ maxLen) (h64 : maxLen < two64) :
    readVec (ofBytes (written (writeVec (fresh maxLen) n bytes))) esz =
      .ok { (ofBytes (le64 n ++ bytes)) with rpos := 8 + bytes.length } (n, bytes) := by
  have hw : written (writeVec (fresh maxLen) n bytes) = le64 n ++ bytes := by
    rw [writeVec_eq _ _ _ rfl rfl (by simpa [fresh] using h)]
    simp only [written, fresh, List.nil_append, List.length_nil, Nat.zero_add]
    exact List.take_of_length_le (by simp [le64_length])
  rw [hw]
  have := readVec_serialised [] bytes esz n he hb (by simp only [List.length_nil]; omega)
  simp only [List.nil_append, List.length_nil, Nat.zero_add] at this
  exact this

/-- the same after any sequence of earlier writes: objects written one after the other are read back one after the other
    (to chain: conjuncts 1–2 give the next `hgood`, `hlen`; `writeVec_eq` gives the new `buf.length` and `maxLen` for `h`) -/
theorem roundtrip_seq_vec (s : St) (esz n : Nat) (bytes : List UInt8) (he : 0 < esz)
    (hgood : s.state = 0) (hlen : s.len = s.buf.length) (hb : bytes.length = n * esz)
    (h : s.buf.length + 8 + bytes.length ≤ s.maxLen) (h64 : s.maxLen < two64) :
    let w := writeVec s n bytes
    w.len = w.buf.length ∧ w.state = 0 ∧ written w = written s ++ le64 n ++ bytes ∧
    readVec { (ofBytes (written w)) with rpos := s.len } esz =
      .ok { (ofBytes (written w)) with rpos := w.len } (n, bytes) := by
  intro w
  have hw : w = { s with buf := s.buf ++ le64 n ++ bytes, len := s.buf.length + 8 + bytes.length } :=
    writeVec_eq s n bytes hgood hlen h
  have hwr : written w = s.buf ++ le64 n ++ bytes := by
    rw [hw]
    exact List.take_of_length_le (by simp [le64_length]; omega)
  have hws : written s = s.buf := by simp [written, hlen]
  refine ⟨by rw [hw]; simp [le64_length]; omega, by rw [hw]; exact hgood, by rw [hwr, hws], ?_⟩
  rw [hwr, hlen, readVec_serialised s.buf bytes esz n he hb (by omega)]
  rw [hw]

/-- why `write_vector` advances by 8 after the length prefix: advancing by the element size instead loses the vector
    (witness: `std::vector<int>{1, 2}`; see known_findings.json) -/
theorem write_vec_adv_esz_breaks :
    readVec (ofBytes (written (writeVecAdv 4 (fresh 1000) 2 [1,0,0,0, 2,0,0,0]))) 4 ≠
      .ok { (ofBytes (le64 2 ++ [1,0,0,0, 2,0,0,0])) with rpos := 16 } (2, [1,0,0,0, 2,0,0,0]) := by
  -- the element bytes overwrite the upper half of the length prefix: the reader sees n = 2 + 2^32
  have hw : written (writeVecAdv 4 (fresh 1000) 2 [1,0,0,0, 2,0,0,0]) = [2,0,0,0, 1,0,0,0, 2,0,0,0] := by
    decide
  have hn : ¬ (fromLe [2,0,0,0, 1,0,0,0] * 4 ≤ 4) := by decide
  rw [hw, readVec_spec _ _ (by omega) (by simp [ofBytes]) (by simp [ofBytes]) (by simp [ofBytes, two64])]
  simp only [ofBytes, List.length_cons, List.length_nil, List.drop_zero, List.take_succ_cons,
    List.take_zero, Nat.zero_add, Nat.sub_zero, Nat.reduceAdd, Nat.reduceSub, Nat.reduceLeDiff, if_true]
  rw [if_neg hn]
  intro h
  cases h

/-! ## no read touches memory outside the buffer -/

/-- for every buffer, cursor inside the data and element size, `read_vector` never goes out of bounds,
    including length prefixes whose byte size wraps around 2^64 -/
theorem read_vec_in_bounds (s : St) (esz : Nat) (he : 0 < esz) (hlen : s.len ≤ s.buf.length)
    (hr : s.rpos ≤ s.len) (h64 : s.len < two64) : ∀ t, readVec s esz ≠ .oob t := by
  intro t
  rw [readVec_spec s esz he hlen hr h64]
  split
  · split <;> simp
  · simp

theorem read_obj_in_bounds (s : St) (size : Nat) (hlen : s.len ≤ s.buf.length)
    (hr : s.rpos ≤ s.len) (h64 : s.len < two64) : ∀ t, readObj s size ≠ .oob t := by
  intro t
  rw [readObj_spec s size hlen hr h64]
  split <;> simp

/-- a successful read leaves the cursor inside the data (so the hypotheses above are preserved) -/
theorem read_vec_cursor (s : St) (esz : Nat) (he : 0 < esz) (hlen : s.len ≤ s.buf.length)
    (hr : s.rpos ≤ s.len) (h64 : s.len < two64) (t : St) (v : Nat × List UInt8)
    (h : readVec s esz = .ok t v) : t.rpos ≤ t.len ∧ t.len = s.len ∧ t.buf = s.buf ∧ v.2.length = v.1 * esz := by
  rw [readVec_spec s esz he hlen hr h64] at h
  split at h
  · split at h
    · injection h with h1 h2
      subst h1 h2
      refine ⟨?_, rfl, rfl, ?_⟩
      · show s.rpos + 8 + _ ≤ s.len
        omega
      · simp only [List.length_take, List.length_drop]
        omega
    · cases h
  · cases h

/-- what the guard is for: without it a wrapped length (2^61 doubles) is accepted and goes out of bounds -/
theorem unguarded_wraps :
    ∃ t, readVecUnguarded (ofBytes (le64 (2 ^ 61) ++ [0xaa, 0xbb, 0xcc, 0xdd])) 8 = .oob t := by
  have hL : (le64 (2 ^ 61) ++ [0xaa, 0xbb, 0xcc, 0xdd]).length = 12 := by simp [le64_length]
  have ht : ((le64 (2 ^ 61) ++ [0xaa, 0xbb, 0xcc, 0xdd]).drop 0).take 8 = le64 (2 ^ 61) :=
    List.take_left' (le64_length _)
  have hf : fromLe (le64 (2 ^ 61)) = 2 ^ 61 := fromLe_le64 _ (by unfold two64; omega)
  -- the byte count wraps to 0; 0 bytes always remain
  have hw : 2 ^ 61 * 8 % 2 ^ 64 = 0 := by decide
  simp only [readVecUnguarded, hasRemaining, remaining, ofBytes, slice, hL, ht, hf, two64, hw]
  simp

/-! ## truncation is an error, never a value -/

/-- reading a vector from any strict prefix of its serialisation fails -/
theorem trunc_vec_fails (esz n k : Nat) (bytes : List UInt8) (he : 0 < esz) (hb : bytes.length = n * esz)
    (hk : k < 8 + bytes.length) (h64 : 8 + bytes.length < two64) :
    ∃ t, readVec (ofBytes ((le64 n ++ bytes).take k)) esz = .fail t := by
  have hn : n < two64 := by
    have : n * 1 ≤ n * esz := Nat.mul_le_mul_left n he
    omega
  have hL : ((le64 n ++ bytes).take k).length = k := by
    simp [le64_length]; omega
  rw [readVec_spec _ _ he (Nat.le_refl _) (Nat.zero_le _) (by show (List.take k _).length < _; omega)]
  simp only [ofBytes, hL, Nat.sub_zero, List.drop_zero, Nat.zero_add]
  by_cases h8 : 8 ≤ k
  · rw [if_pos h8, List.take_take, Nat.min_eq_left h8, List.take_left' (le64_length n), fromLe_le64 n hn,
      if_neg (by omega)]
    exact ⟨_, rfl⟩
  · rw [if_neg h8]
    exact ⟨_, rfl⟩

theorem trunc_obj_fails (bytes : List UInt8) (k : Nat) (hk : k < bytes.length) (h64 : bytes.length < two64) :
    ∃ t, readObj (ofBytes (bytes.take k)) bytes.length = .fail t := by
  have hL : (bytes.take k).length = k := by simp; omega
  rw [readObj_spec _ _ (Nat.le_refl _) (Nat.zero_le _) (by show (List.take k _).length < _; omega)]
  simp only [ofBytes, hL, Nat.sub_zero]
  rw [if_neg (by omega)]
  exact ⟨_, rfl⟩

/-! ## crash-consistent replacement of the state file -/
open Cv.FS

/-- If the state file held a complete state when its replacement began, then whatever the chunking of the
    new state and wherever the process dies (between operations or inside a write), the file or its
    `.old` backup holds a complete state. -/
theorem crash_invariant (complete : Bytes → Prop) (d : Disk) (chunks : List Bytes)
    (hf : holds complete d.f) (hnew : complete chunks.flatten) (k j : Nat) :
    let d' := crashAt d (replaceOps chunks) k j
    holds complete d'.f ∨ holds complete d'.old := by
  have _ := hnew  -- not needed: the backup alone carries the invariant
  obtain ⟨b, hb, hc⟩ := hf
  cases k with
  | zero => exact .inl ⟨b, hb, hc⟩
  | succ k => exact .inr ⟨b, crashAt_replace_old d b chunks hb k j, hc⟩

/-- after the replacement ran to completion the file holds the new state and `.old` the previous one -/
theorem replace_done (d : Disk) (b : Bytes) (chunks : List Bytes) (hf : d.f = some b) :
    run d (replaceOps chunks) = { f := some chunks.flatten, old := some b } := by
  rw [run_replaceOps]; simp [step, hf]

/-- the very first state (no file yet): once it is completely written it is on disk -/
theorem first_state (d : Disk) (chunks : List Bytes) (hf : d.f = none) :
    (run d (replaceOps chunks)).f = some chunks.flatten ∧ (run d (replaceOps chunks)).old = d.old := by
  rw [run_replaceOps]; simp [step, hf]

/-- The hypothesis `holds complete d.f` of `crash_invariant` cannot be dropped: a crash during one
    replacement followed by a crash during the next one leaves no complete state (the partial file is
    renamed over the good backup).  Concrete history; see known_findings.json. -/
theorem double_crash_loses_state :
    let complete : Bytes → Prop := fun b => b = [1, 2, 3, 4]
    let d0 : Disk := { f := some [1, 2, 3, 4], old := none }
    let d1 := crashAt d0 (replaceOps [[1, 2, 3, 4]]) 2 2     -- dies after writing 2 of 4 bytes
    let d2 := crashAt d1 (replaceOps [[1, 2, 3, 4]]) 2 1     -- next run, dies after writing 1 byte
    ¬ (holds complete d2.f ∨ holds complete d2.old) := by
  intro complete d0 d1 d2
  have h2 : d2 = { f := some [1], old := some [1, 2] } := by
    simp [d2, d1, d0, crashAt, replaceOps, run, step]
  rw [h2]
  rintro (⟨b, hb, hc⟩ | ⟨b, hb, hc⟩)
  · simp only [Option.some.injEq] at hb
    subst hb
    simp [complete] at hc
  · simp only [Option.some.injEq] at hb
    subst hb
    simp [complete] at hc

/-! ## non-vacuity of `roundtrip_seq_vec` and `crash_invariant` -/

example : (fresh 100).state = 0 ∧ (fresh 100).len = (fresh 100).buf.length ∧ 8 + 8 ≤ (100:Nat) := by
  simp [fresh]

example : holds (fun b => b = [1,2,3,4]) ({ f := some [1,2,3,4], old := none } : Disk).f := by
  exact ⟨_, rfl, rfl⟩

/-! ## the published state file of a multiple-walker bias (temporary file + rename, no backup) -/

/-- operations run one after the other (`prun` is a left fold) -/
theorem prun_append (d : PDisk) (a b : List POp) : prun d (a ++ b) = prun (prun d a) b :=
  List.foldl_append

/-- writes to the temporary file never touch the published file (a case of `prun_pub`, C11Lemmas) -/
theorem pub_writes (d : PDisk) (chunks : List Bytes) : (prun d (chunks.map .writeTmp)).pub = d.pub :=
  prun_pub d _ fun op h => by obtain ⟨c, _, rfl⟩ := List.mem_map.mp h; nofun

/-- the temporary file after the writes; `prun_writes` (C11Lemmas) is the form for a temporary file that exists -/
theorem tmp_writes (d : PDisk) (chunks : List Bytes) :
    (prun d (chunks.map .writeTmp)).tmp = some ((d.tmp.getD []) ++ chunks.flatten) ∨ (chunks = [] ∧ (prun d (chunks.map .writeTmp)).tmp = d.tmp) := by
  cases chunks with
  | nil => exact .inr ⟨rfl, rfl⟩
  | cons c cs =>
    left
    rw [List.map_cons, prun_cons, pstep_writeTmp, prun_writes, List.flatten_cons, List.append_assoc]

/-- every prefix of the operations before the final rename leaves the published file as it was -/
theorem pub_untouched_before_publish (d : PDisk) (chunks : List Bytes) (k : Nat)
    (hk : k ≤ chunks.length + 3) :
    (prun d ((publishOps chunks).take k)).pub = d.pub := by
  refine prun_pub d _ fun op hop => ?_
  have e : publishOps chunks = (POp.removeTmp :: .openTmp :: (chunks.map .writeTmp ++ [.closeTmp])) ++ [.publish] := by
    simp [publishOps]
  rw [e, List.take_append_of_le_length (by simpa using hk)] at hop
  have := List.mem_of_mem_take hop
  simp only [List.mem_cons, List.mem_append, List.mem_map, List.mem_nil_iff, or_false] at this
  rcases this with rfl | rfl | ⟨c, _, rfl⟩ | rfl <;> nofun

/-- **crash invariant of the published file**: if it held a complete state when the replacement began and the new state is
    complete, then wherever the process dies — between any two operations or inside any write — the published file holds
    a complete state (the previous one, or after the rename the new one) -/
theorem publish_crash_invariant (complete : Bytes → Prop) (d : PDisk) (chunks : List Bytes)
    (hf : holds complete d.pub) (hnew : complete chunks.flatten) (k j : Nat) :
    holds complete (pcrashAt d (publishOps chunks) k j).pub := by
  rw [pcrashAt_pub]
  by_cases hk : k ≤ chunks.length + 3
  · rw [pub_untouched_before_publish d chunks k hk]; exact hf
  · rw [List.take_of_length_le (by simp [publishOps]; omega), prun_publishOps]
    exact ⟨_, rfl, hnew⟩

/-- The order of close and rename matters: with the rename moved before the bytes have left the stream's buffer, a death
    right after the rename leaves an empty published file although both the previous and the new state were complete. -/
theorem publish_early_loses_state :
    let complete : Bytes → Prop := fun b => b = [1, 2, 3, 4]
    let d0 : PDisk := { pub := some [1, 2, 3, 4], tmp := none }
    ¬ holds complete (pcrashAt d0 (publishEarlyOps [[1, 2, 3, 4]]) 3 0).pub := by
  intro complete d0 h
  obtain ⟨b, hb, hc⟩ := h
  simp [pcrashAt, publishEarlyOps, prun, pstep, d0] at hb
  subst hb
  simp [complete] at hc

/-- premises of `publish_crash_invariant` are satisfiable, and a mid-write death indeed leaves the old state published -/
example : (pcrashAt { pub := some [9], tmp := none } (publishOps [[1, 2], [3]]) 2 1).pub = some [9] := by decide

end Cv.C11
