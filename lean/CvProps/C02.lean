import CvProps.C02Lemmas
/-!
# C02 — variable values equal their mathematical definition and respect its symmetries

About `CvModel/Geom.lean` at `α := ℝ`: the centre of mass is the mass-weighted mean; the modelled components are unchanged
by a rigid translation, by a linear isometry applied to all atoms (and to the axis), by reordering the atoms of a group
and by rescaling its masses.  (Minimum-image translations, duplicate atoms and the optimal-rotation fit are compared
with independent implementations on the real code only.)
-/
open Cv Cv.Geom Cv.C02L
open Cv.C07 (vsum)

namespace Cv.C02

def MassOk (g : AGroup ℝ) : Prop := g ≠ [] ∧ ∀ a ∈ g, 0 < a.m

noncomputable def translate (g : AGroup ℝ) (v : V3 ℝ) : AGroup ℝ := g.map fun a => { a with r := V3.add a.r v }
noncomputable def transform (R : V3 ℝ → V3 ℝ) (g : AGroup ℝ) : AGroup ℝ := g.map fun a => { a with r := R a.r }
noncomputable def scaleMass (g : AGroup ℝ) (k : ℝ) : AGroup ℝ := g.map fun a => { a with m := k * a.m }

/-! ## the values are the quantities of the reference manual -/

theorem com_is_weighted_mean (g : AGroup ℝ) :
    com g = ⟨(g.map fun a => a.m * a.r.x).sum / (g.map (·.m)).sum,
             (g.map fun a => a.m * a.r.y).sum / (g.map (·.m)).sum,
             (g.map fun a => a.m * a.r.z).sum / (g.map (·.m)).sum⟩ := by
  rw [com_eq, totalMass_eq]
  ext <;> simp only [v3, List.map_map, Function.comp_def] <;> ring

theorem distance_is_euclidean (g1 g2 : AGroup ℝ) :
    distance g1 g2 = Real.sqrt (((com g2).x - (com g1).x) ^ 2 + ((com g2).y - (com g1).y) ^ 2 + ((com g2).z - (com g1).z) ^ 2) := by
  rw [distance, V3.norm_def, V3.dot_def, distVec]
  congr 1
  simp only [v3]
  ring

theorem inertia_is_sum (g : AGroup ℝ) : inertia g = (g.map fun a => V3.norm2 (V3.sub a.r (cog g))).sum := by
  rw [inertia_eq, centered, List.map_map]
  rfl

theorem gyration_is_rms (g : AGroup ℝ) :
    gyration g = Real.sqrt ((g.map fun a => V3.norm2 (V3.sub a.r (cog g))).sum / (g.length : ℝ)) := by
  rw [gyration_eq_sqrt_inertia, inertia_is_sum]

/-! ## rigid translation -/

theorem com_translate (g : AGroup ℝ) (v : V3 ℝ) (h : MassOk g) : com (translate g v) = V3.add (com g) v := by
  have hM : totalMass g ≠ 0 := (totalMass_pos g h.1 h.2).ne'
  have e : ∀ a : Atom ℝ, V3.smul a.m (V3.add a.r v) = V3.add (V3.smul a.m a.r) (V3.smul a.m v) := fun a => by
    ext <;> simp only [v3] <;> ring
  rw [com_eq, com_eq, translate, totalMass_map_r, List.map_map]
  simp only [Function.comp_def, e, vsum_map_add, vsum_map_smul_const, ← totalMass_eq]
  ext <;> simp only [v3, mul_add, one_div, inv_mul_cancel_left₀ hM]

private theorem cog_translate (g : AGroup ℝ) (v : V3 ℝ) (hg : g ≠ []) : cog (translate g v) = V3.add (cog g) v := by
  have hN := length_cast_ne_zero g hg
  rw [cog_eq, cog_eq, translate, List.length_map, List.map_map]
  simp only [Function.comp_def, vsum_map_add, vsum_map_const]
  ext <;> simp only [v3, mul_add, one_div, inv_mul_cancel_left₀ hN]

/-- gyration, inertia and inertiaZ are built on `centered` and inherit this -/
private theorem centered_translate (g : AGroup ℝ) (v : V3 ℝ) (hg : g ≠ []) : centered (translate g v) = centered g := by
  rw [centered, cog_translate g v hg, translate, List.map_map]
  simp only [Function.comp_def, V3.sub_add_add]
  rfl

theorem distance_translation (g1 g2 : AGroup ℝ) (v : V3 ℝ) (h1 : MassOk g1) (h2 : MassOk g2) :
    distance (translate g1 v) (translate g2 v) = distance g1 g2 := by
  unfold distance distVec
  rw [com_translate g1 v h1, com_translate g2 v h2, V3.sub_add_add]

theorem distanceZ_translation (main ref : AGroup ℝ) (axis v : V3 ℝ) (hm : MassOk main) (hr : MassOk ref) :
    distanceZ (translate main v) (translate ref v) axis = distanceZ main ref axis := by
  unfold distanceZ
  rw [com_translate main v hm, com_translate ref v hr, V3.sub_add_add]

theorem distanceXY_translation (main ref : AGroup ℝ) (axis v : V3 ℝ) (hm : MassOk main) (hr : MassOk ref) :
    distanceXY (translate main v) (translate ref v) axis = distanceXY main ref axis := by
  unfold distanceXY orthoPart
  simp only [com_translate main v hm, com_translate ref v hr, V3.sub_add_add]

theorem gyration_translation (g : AGroup ℝ) (v : V3 ℝ) (hg : g ≠ []) : gyration (translate g v) = gyration g := by
  rw [gyration, centered_translate g v hg, translate, List.length_map]
  rfl

theorem angle_translation (g1 g2 g3 : AGroup ℝ) (v : V3 ℝ) (h1 : MassOk g1) (h2 : MassOk g2) (h3 : MassOk g3) :
    angle (translate g1 v) (translate g2 v) (translate g3 v) = angle g1 g2 g3 := by
  unfold angle angleCos
  simp only [com_translate g1 v h1, com_translate g2 v h2, com_translate g3 v h3, V3.sub_add_add]

/-! ## rotations and reflections -/

theorem com_transform (R : V3 ℝ → V3 ℝ) (hR : Isometry R) (g : AGroup ℝ) : com (transform R g) = R (com g) := by
  rw [com_eq, com_eq, transform, totalMass_map_r, List.map_map]
  simp only [Function.comp_def, ← hR.smul, hR.vsum]

private theorem cog_transform (R : V3 ℝ → V3 ℝ) (hR : Isometry R) (g : AGroup ℝ) : cog (transform R g) = R (cog g) := by
  rw [cog_eq, cog_eq, transform, List.length_map, List.map_map]
  simp only [Function.comp_def, ← hR.smul, hR.vsum]

private theorem centered_transform (R : V3 ℝ → V3 ℝ) (hR : Isometry R) (g : AGroup ℝ) :
    centered (transform R g) = (centered g).map R := by
  rw [centered, cog_transform R hR, transform, centered, List.map_map, List.map_map]
  simp only [Function.comp_def, hR.sub]

theorem distance_rotation (R : V3 ℝ → V3 ℝ) (hR : Isometry R) (g1 g2 : AGroup ℝ) :
    distance (transform R g1) (transform R g2) = distance g1 g2 := by
  unfold distance distVec
  rw [com_transform R hR, com_transform R hR, ← hR.sub, hR.norm]

theorem distanceZ_rotation (R : V3 ℝ → V3 ℝ) (hR : Isometry R) (main ref : AGroup ℝ) (axis : V3 ℝ) :
    distanceZ (transform R main) (transform R ref) (R axis) = distanceZ main ref axis := by
  unfold distanceZ
  rw [com_transform R hR, com_transform R hR, ← hR.sub, hR.unit, hR.dot]

theorem distanceXY_rotation (R : V3 ℝ → V3 ℝ) (hR : Isometry R) (main ref : AGroup ℝ) (axis : V3 ℝ) :
    distanceXY (transform R main) (transform R ref) (R axis) = distanceXY main ref axis := by
  unfold distanceXY orthoPart
  simp only [com_transform R hR, ← hR.sub, hR.unit, hR.dot, ← hR.smul,
    hR.norm]

theorem gyration_rotation (R : V3 ℝ → V3 ℝ) (hR : Isometry R) (g : AGroup ℝ) :
    gyration (transform R g) = gyration g := by
  rw [gyration, centered_transform R hR, List.foldl_map, transform, List.length_map]
  simp only [hR.norm2]
  rfl

theorem angle_rotation (R : V3 ℝ → V3 ℝ) (hR : Isometry R) (g1 g2 g3 : AGroup ℝ) :
    angle (transform R g1) (transform R g2) (transform R g3) = angle g1 g2 g3 := by
  unfold angle angleCos
  simp only [com_transform R hR, ← hR.sub, hR.dot, hR.norm]

/-! ## order of the atoms in a group, and the unit of mass -/

theorem com_perm (g g' : AGroup ℝ) (h : g.Perm g') : com g = com g' := by
  rw [com_eq, com_eq, totalMass_eq, totalMass_eq, (h.map _).sum_eq, vsum_perm _ h]

private theorem cog_perm (g g' : AGroup ℝ) (h : g.Perm g') : cog g = cog g' := by
  rw [cog_eq, cog_eq, h.length_eq, vsum_perm _ h]

private theorem centered_perm (g g' : AGroup ℝ) (h : g.Perm g') : (centered g).Perm (centered g') := by
  rw [centered, centered, cog_perm g g' h]
  exact h.map _

theorem distance_perm (g1 g1' g2 g2' : AGroup ℝ) (h1 : g1.Perm g1') (h2 : g2.Perm g2') :
    distance g1 g2 = distance g1' g2' := by
  unfold distance distVec
  rw [com_perm g1 g1' h1, com_perm g2 g2' h2]

theorem gyration_perm (g g' : AGroup ℝ) (h : g.Perm g') : gyration g = gyration g' := by
  rw [gyration_eq_sqrt_inertia, gyration_eq_sqrt_inertia, inertia_eq, inertia_eq, h.length_eq,
    ((centered_perm g g' h).map _).sum_eq]

theorem com_mass_scale (g : AGroup ℝ) (k : ℝ) (hk : k ≠ 0) (h : MassOk g) : com (scaleMass g k) = com g := by
  have _ := h  -- not needed: `k ≠ 0` suffices
  have e : (fun a : Atom ℝ => V3.smul (k * a.m) a.r) = V3.smul k ∘ fun a => V3.smul a.m a.r := by
    funext a; ext <;> simp only [Function.comp_def, v3] <;> ring
  rw [com_eq, com_eq, totalMass_eq, totalMass_eq, scaleMass, List.map_map, List.map_map]
  simp only [Function.comp_def, List.sum_map_mul_left]
  rw [e, ← List.map_map, vsum_map_smul]
  ext <;> simp only [v3] <;> rw [one_div_mul_eq_div, mul_div_mul_left _ _ hk, ← one_div_mul_eq_div]

/-! ## inertia, inertiaZ, distanceInv, coordNum: the same symmetries -/

theorem inertia_translation (g : AGroup ℝ) (v : V3 ℝ) (hg : g ≠ []) : inertia (translate g v) = inertia g := by
  rw [inertia, centered_translate g v hg]
  rfl

theorem inertia_rotation (R : V3 ℝ → V3 ℝ) (hR : Isometry R) (g : AGroup ℝ) : inertia (transform R g) = inertia g := by
  rw [inertia, centered_transform R hR, List.foldl_map]
  simp only [hR.norm2]
  rfl

theorem inertia_perm (g g' : AGroup ℝ) (h : g.Perm g') : inertia g = inertia g' := by
  rw [inertia_eq, inertia_eq, ((centered_perm g g' h).map _).sum_eq]

theorem inertiaZ_translation (g : AGroup ℝ) (axis v : V3 ℝ) (hg : g ≠ []) :
    inertiaZ (translate g v) axis = inertiaZ g axis := by
  rw [inertiaZ, centered_translate g v hg]
  rfl

theorem inertiaZ_rotation (R : V3 ℝ → V3 ℝ) (hR : Isometry R) (g : AGroup ℝ) (axis : V3 ℝ) :
    inertiaZ (transform R g) (R axis) = inertiaZ g axis := by
  rw [inertiaZ, centered_transform R hR, List.foldl_map]
  simp only [hR.unit, hR.dot]
  rfl

/-- the coordination number depends on the pair distances only -/
theorem coordNum_translation (g1 g2 : AGroup ℝ) (p : SwParams ℝ) (v : V3 ℝ) :
    coordNum (translate g1 v) (translate g2 v) p = coordNum g1 g2 p := by
  rw [coordNum_eq, coordNum_eq]
  unfold translate
  simp only [List.map_map, Function.comp_def, reducedDist2, V3.sub_add_add]

theorem coordNum_rotation (R : V3 ℝ → V3 ℝ) (hR : Isometry R) (g1 g2 : AGroup ℝ) (p : SwParams ℝ) (hr0 : p.r0 ≠ 0) :
    coordNum (transform R g1) (transform R g2) p = coordNum g1 g2 p := by
  have _ := hr0  -- not needed: `x / 0 = 0`
  rw [coordNum_eq, coordNum_eq]
  unfold transform
  simp only [List.map_map, Function.comp_def, reducedDist2_eq, ← hR.sub, hR.norm2]

theorem coordNum_perm (g1 g1' g2 g2' : AGroup ℝ) (p : SwParams ℝ) (h1 : g1.Perm g1') (h2 : g2.Perm g2') :
    coordNum g1 g2 p = coordNum g1' g2' p := by
  rw [coordNum_eq, coordNum_eq]
  exact sum_sum_perm _ g1 g1' g2 g2' h1 h2

theorem distanceInv_translation (g1 g2 : AGroup ℝ) (n : Nat) (v : V3 ℝ) :
    distanceInv (translate g1 v) (translate g2 v) n = distanceInv g1 g2 n := by
  rw [distanceInv_eq, distanceInv_eq]
  unfold translate
  simp only [List.map_map, Function.comp_def, V3.sub_add_add, List.length_map]

theorem distanceInv_rotation (R : V3 ℝ → V3 ℝ) (hR : Isometry R) (g1 g2 : AGroup ℝ) (n : Nat) :
    distanceInv (transform R g1) (transform R g2) n = distanceInv g1 g2 n := by
  rw [distanceInv_eq, distanceInv_eq]
  unfold transform
  simp only [List.map_map, Function.comp_def, List.length_map, ← hR.sub, hR.norm2]

theorem distanceInv_perm (g1 g1' g2 g2' : AGroup ℝ) (n : Nat) (h1 : g1.Perm g1') (h2 : g2.Perm g2') :
    distanceInv g1 g2 n = distanceInv g1' g2' n := by
  rw [distanceInv_eq, distanceInv_eq, h1.length_eq, h2.length_eq,
    sum_sum_perm (fun a b => invPow (V3.norm2 (V3.sub b.r a.r)) (n / 2)) g1 g1' g2 g2' h1 h2]

/-! ## non-vacuity: a rotation about z by a right angle is an isometry -/
example : Isometry (fun v : V3 ℝ => (⟨-v.y, v.x, v.z⟩ : V3 ℝ)) := by
  refine ⟨?_, ?_, ?_⟩
  · intro a b; ext <;> simp only [v3] <;> ring
  · intro k a; ext <;> simp only [v3] <;> ring
  · intro a b; simp only [V3.dot_def]; ring

end Cv.C02
