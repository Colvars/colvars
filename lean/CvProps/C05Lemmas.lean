import CvProps.MetaStep
import CvProps.GridLemmas
/-!
# Helper lemmas for C05, namespace `Cv.C05`

Sums over hills and the truncated Gaussian; what `projectHills` does to one bin; `metaRun` as an iteration of
`stepTrace`; the invariant `FullInv` of a run with grids.
-/
open Cv

namespace Cv.C05

theorem hillsEnergy_foldl (p : MetaParams ℝ) (hs : List (Hill ℝ)) (xs : List ℝ) (b : ℝ) :
    hs.foldl (fun e h => e + h.w * hillValue p h xs) b = b + hillsEnergy p hs xs := by
  rw [hillsEnergy, foldl_add_map_eq_sum, foldl_add_zero]

theorem hillsEnergy_append (p : MetaParams ℝ) (a b : List (Hill ℝ)) (xs : List ℝ) :
    hillsEnergy p (a ++ b) xs = hillsEnergy p a xs + hillsEnergy p b xs := by
  rw [hillsEnergy, List.foldl_append, hillsEnergy_foldl]
  rfl

/-- the exponent sum of `hillValue`: a copy of its `let sq` (CvModel/Meta.lean), tied to it by `hillValue_eq`;
    keep in sync -/
noncomputable def sqSum (p : MetaParams ℝ) (h : Hill ℝ) (xs : List ℝ) : ℝ :=
  (List.zipWith (fun (pc : Option ℝ × ℝ) (cs : ℝ × ℝ) =>
      dist2S pc.1 pc.2 cs.1 / (cs.2 * cs.2)) (p.per.zip xs) (h.centers.zip h.sigmas)).foldl (· + ·) 0.0

theorem hillValue_eq (p : MetaParams ℝ) (h : Hill ℝ) (xs : List ℝ) :
    hillValue p h xs = if sqSum p h xs > 23.0 then 0.0 else Real.exp (-0.5 * sqSum p h xs) := rfl

theorem hillValue_of_le (p : MetaParams ℝ) (h : Hill ℝ) (xs : List ℝ) (hs : sqSum p h xs ≤ 23) :
    hillValue p h xs = Real.exp (-0.5 * sqSum p h xs) := by
  rw [hillValue_eq, if_neg (not_lt.2 (by norm_num; exact hs))]

theorem sqSum_nonneg (p : MetaParams ℝ) (h : Hill ℝ) (xs : List ℝ) : 0 ≤ sqSum p h xs := by
  rw [sqSum, foldl_add_eq_sum, lit_zero, zero_add, ← List.map_uncurry_zip_eq_zipWith]
  exact List.sum_nonneg (List.forall_mem_map.2 fun _ _ => div_nonneg (mul_self_nonneg _) (mul_self_nonneg _))

section
open Cv.C15

theorem projectHills_gridE (p : MetaParams ℝ) (s : MetaState ℝ) (hs : List (Hill ℝ)) :
    (projectHills p s hs).gridE = List.zipWith (· + ·) s.gridE
      ((allIndices s.g.nx).map fun ix => hillsEnergy p hs (binCenters s.g ix)) := rfl

theorem projectHills_g (p : MetaParams ℝ) (s : MetaState ℝ) (hs : List (Hill ℝ)) :
    (projectHills p s hs).g = s.g := rfl
theorem projectHills_hills (p : MetaParams ℝ) (s : MetaState ℝ) (hs : List (Hill ℝ)) :
    (projectHills p s hs).hills = s.hills := rfl

theorem length_gridE (s : MetaState ℝ) (hpos : ∀ n ∈ s.g.nx, 0 < n) (hne : s.g.nx ≠ [])
    (hlen : (s.gridE.length : Int) = ntOf 1 s.g.nx) : s.gridE.length = (allIndices s.g.nx).length := by
  have := ntOf_pos _ hpos
  rw [allIndices_length _ hne hpos]
  omega

theorem projectHills_gridE_length (p : MetaParams ℝ) (s : MetaState ℝ) (hs : List (Hill ℝ))
    (hpos : ∀ n ∈ s.g.nx, 0 < n) (hne : s.g.nx ≠ []) (hlen : (s.gridE.length : Int) = ntOf 1 s.g.nx) :
    ((projectHills p s hs).gridE.length : Int) = ntOf 1 s.g.nx := by
  rw [projectHills_gridE, List.length_zipWith, List.length_map, ← length_gridE s hpos hne hlen, Nat.min_self]
  exact hlen

theorem projectHills_getD (p : MetaParams ℝ) (s : MetaState ℝ) (hs : List (Hill ℝ)) (ix : List Int)
    (hpos : ∀ n ∈ s.g.nx, 0 < n) (hne : s.g.nx ≠ []) (hlen : (s.gridE.length : Int) = ntOf 1 s.g.nx)
    (hok : indexOk s.g.nx ix = true) :
    (projectHills p s hs).gridE.getD (address 1 s.g.nx ix).toNat 0 =
      s.gridE.getD (address 1 s.g.nx ix).toNat 0 + hillsEnergy p hs (binCenters s.g ix) := by
  rw [projectHills_gridE, getD_zipWith_add _ _ (by rw [List.length_map]; exact length_gridE s hpos hne hlen),
    getD_map_allIndices _ _ _ hne hpos ix hok]

end

theorem metaEnergy_nogrid (p : MetaParams ℝ) (s : MetaState ℝ) (xs : List ℝ) (hg : p.useGrids = false) :
    metaEnergy p s xs = hillsEnergy p (newHills s) xs := by
  unfold metaEnergy
  simp only [hg, Bool.false_and, Bool.false_eq_true, if_false]
  rfl

theorem metaForce_nogrid (p : MetaParams ℝ) (s : MetaState ℝ) (xs : List ℝ) (i : Nat) (hg : p.useGrids = false) :
    metaForce p s xs i = hillsForce p (newHills s) xs i := by
  unfold metaForce
  simp only [hg, Bool.false_and, Bool.false_eq_true, if_false]
  rfl

/-! ## a history as an iteration of single steps -/

noncomputable def stepDeposited (p : MetaParams ℝ) (t : MetaTrace ℝ) (c : Clock) (xs : List ℝ) : List (Hill ℝ) :=
  if depositNow p c then t.deposited ++ [newHill p c (expandGrids p t.s xs) xs] else t.deposited

/-- one step of `metaRun`: the record its `cons` case passes on (a copy, tied to it by `metaRun_cons`;
    keep in sync) -/
noncomputable def stepTrace (p : MetaParams ℝ) (t : MetaTrace ℝ) (c : Clock) (xs : List ℝ) : MetaTrace ℝ :=
  { s := (metaStep p c t.s xs).1,
    energies := t.energies ++ [(metaStep p c t.s xs).2.1],
    forces := t.forces ++ [(metaStep p c t.s xs).2.2],
    deposited := stepDeposited p t c xs,
    projected := if gridTime p c then stepDeposited p t c xs else t.projected }

theorem metaRun_nil (p : MetaParams ℝ) (t : MetaTrace ℝ) : metaRun p t [] = t := rfl

theorem metaRun_cons (p : MetaParams ℝ) (t : MetaTrace ℝ) (c : Clock) (xs : List ℝ) (rest : MetaHist ℝ) :
    metaRun p t ((c, xs) :: rest) = metaRun p (stepTrace p t c xs) rest := rfl

theorem metaRun_induction (p : MetaParams ℝ) (P : MetaTrace ℝ → Prop)
    (hstep : ∀ t c xs, P t → P (stepTrace p t c xs)) :
    ∀ (h : MetaHist ℝ) (t : MetaTrace ℝ), P t → P (metaRun p t h)
  | [], _, ht => ht
  | (c, xs) :: rest, t, ht => metaRun_induction p P hstep rest _ (hstep t c xs ht)

section
open Cv.C15

/-- grid contents = tabulated hills at the bin centres; untabulated hills = the tail of the deposited hills -/
structure FullInv (p : MetaParams ℝ) (s : MetaState ℝ) (dep proj : List (Hill ℝ)) : Prop where
  pos : ∀ n ∈ s.g.nx, 0 < n
  ne : s.g.nx ≠ []
  len : (s.gridE.length : Int) = ntOf 1 s.g.nx
  grid : ∀ ix, indexOk s.g.nx ix = true →
    s.gridE.getD (address 1 s.g.nx ix).toNat 0 = hillsEnergy p proj (binCenters s.g ix)
  new : newHills s = dep.drop proj.length
  le : proj.length ≤ dep.length
  pre : proj = dep.take proj.length

theorem FullInv.deposit {p : MetaParams ℝ} {s : MetaState ℝ} {dep proj : List (Hill ℝ)}
    (I : FullInv p s dep proj) (c : Clock) (xs : List ℝ) :
    FullInv p (afterDeposit p c s xs)
      (if depositNow p c then dep ++ [newHill p c s xs] else dep) proj := by
  by_cases hd : depositNow p c = true
  · -- the grid is untouched; the new hill joins both the deposited and the untabulated ones
    rw [if_pos hd, afterDeposit_on p c s xs hd]
    exact ⟨I.pos, I.ne, I.len, I.grid,
      by rw [newHills_snoc s _ _ rfl rfl, I.new, List.drop_append_of_le_length I.le],
      by rw [List.length_append]; exact Nat.le_add_right_of_le I.le,
      by rw [List.take_append_of_le_length I.le]; exact I.pre⟩
  · rw [if_neg hd, afterDeposit_off p c s xs (Bool.not_eq_true _ ▸ hd)]
    exact I

theorem FullInv.tabulate {p : MetaParams ℝ} {s : MetaState ℝ} {dep proj : List (Hill ℝ)}
    (I : FullInv p s dep proj) (c : Clock) :
    FullInv p (afterGrid p c s) dep (if gridTime p c then dep else proj) := by
  by_cases hg : gridTime p c = true
  · have hsplit : proj ++ dep.drop proj.length = dep := by
      have := List.take_append_drop proj.length dep
      rwa [← I.pre] at this
    rw [if_pos hg, afterGrid_on p c s hg]
    refine ⟨I.pos, I.ne, projectHills_gridE_length p s _ I.pos I.ne I.len, fun ix hok => ?_,
      by rw [newHills_none _ rfl, List.drop_length], le_refl _, by rw [List.take_length]⟩
    -- what was tabulated before, and now the untabulated rest
    show (projectHills p s (newHills s)).gridE.getD (address 1 s.g.nx ix).toNat 0 = hillsEnergy p dep (binCenters s.g ix)
    rw [projectHills_getD p s _ ix I.pos I.ne I.len hok, I.grid ix hok, ← hillsEnergy_append, I.new, hsplit]
  · rw [if_neg hg, afterGrid_off p c s (Bool.not_eq_true _ ▸ hg)]
    exact I

theorem FullInv.run {p : MetaParams ℝ} (hex : p.expand.any id = false) (h : MetaHist ℝ) (t : MetaTrace ℝ)
    (I : FullInv p t.s t.deposited t.projected) :
    FullInv p (metaRun p t h).s (metaRun p t h).deposited (metaRun p t h).projected :=
  metaRun_induction p (fun t => FullInv p t.s t.deposited t.projected) (fun t c xs I => by
    have := (I.deposit c xs).tabulate c
    rwa [← expandGrids_off p t.s xs (.inr hex), ← metaStep_fst] at this) h t I

end
end Cv.C05
