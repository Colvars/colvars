import CvProps.C06Lemmas
/-!
# C06 — restraints: documented potentials, schedules as functions of the step alone, work, staged TI

Property theorems about `CvModel/Restraint.lean` and `CvModel/RestraintRun.lean` (harmonic, wall and linear restraints,
their schedules along a history) and, in the namespace `Ratchet`, `CvModel/Ratchet.lean` (ABMD, histogram restraint),
at `α := ℝ`.
-/
open Cv

namespace Cv.C06
open Cv.C18

/-! ## closed forms of the potentials and force = minus derivative -/

/-- harmonic: `½ k/w² d²` with `d` the shortest-image difference; never negative for `k ≥ 0` -/
theorem harmonic_energy (p : RParams ℝ) (hk : p.kind = .harmonic) (k : ℝ) (cs : List ℝ) (i : Nat) (x : ℝ) :
    rPotential p k cs i x =
      0.5 * k / (p.widths.getD i 1 * p.widths.getD i 1) * (pdiff (p.per.getD i none) x (cs.getD i 0)) ^ 2 := by
  unfold rPotential dist2S
  simp only [hk, sq_real, lit_one, lit_zero]
  ring

/-- harmonic, non-periodic variable: the force is minus the derivative of the energy -/
theorem harmonic_force_deriv (p : RParams ℝ) (hk : p.kind = .harmonic) (k : ℝ) (cs : List ℝ) (i : Nat) (x : ℝ)
    (hp : p.per.getD i none = none) :
    HasDerivAt (fun y => rPotential p k cs i y) (- rForce p k cs i x) x := by
  exact hasDerivAt_rPotential_harmonic p hk k cs i x (fun P h => by rw [hp] at h; cases h)

/-- harmonic, periodic variable, away from the point diametrically opposite to the centre -/
theorem harmonic_force_deriv_periodic (p : RParams ℝ) (hk : p.kind = .harmonic) (k : ℝ) (cs : List ℝ) (i : Nat) (x P : ℝ)
    (hp : p.per.getD i none = some P) (hP : 0 < P) (hcut : ∀ n : ℤ, (x - cs.getD i 0) / P + 0.5 ≠ n) :
    HasDerivAt (fun y => rPotential p k cs i y) (- rForce p k cs i x) x := by
  have _ := hP  -- not needed
  refine hasDerivAt_rPotential_harmonic p hk k cs i x (fun Q h n => ?_)
  rw [hp] at h; cases h
  simpa only [lit_zero] using hcut n

/-- linear: `k/w (x - c)` and constant force `-k/w` -/
theorem linear_energy_force (p : RParams ℝ) (hk : p.kind = .linear) (k : ℝ) (cs : List ℝ) (i : Nat) (x : ℝ) :
    rPotential p k cs i x = k / p.widths.getD i 1 * (x - cs.getD i 0) ∧
    rForce p k cs i x = - (k / p.widths.getD i 1) ∧
    HasDerivAt (fun y => rPotential p k cs i y) (- rForce p k cs i x) x := by
  unfold rPotential rForce
  simp only [hk, lit_one, lit_zero]
  refine ⟨trivial, by ring, ?_⟩
  refine (((hasDerivAt_id x).sub_const (cs.getD i 0)).const_mul _).congr_deriv ?_
  ring

/-- non-periodic walls: zero between the walls, harmonic in the excess beyond the violated wall -/
theorem walls_energy (p : RParams ℝ) (hk : p.kind = .walls) (k : ℝ) (cs : List ℝ) (i : Nat) (x l u : ℝ)
    (hp : p.per.getD i none = none) (hl : p.lowerWalls.map (·.getD i 0.0) = some l)
    (hu : p.upperWalls.map (·.getD i 0.0) = some u) (hlu : l < u) :
    let w := p.widths.getD i 1
    (l ≤ x ∧ x ≤ u → rPotential p k cs i x = 0 ∧ rForce p k cs i x = 0) ∧
    (x < l → rPotential p k cs i x = 0.5 * k * p.lowerK / (w * w) * (x - l) ^ 2 ∧
             rForce p k cs i x = - (k * p.lowerK / (w * w) * (x - l))) ∧
    (u < x → rPotential p k cs i x = 0.5 * k * p.upperK / (w * w) * (x - u) ^ 2 ∧
             rForce p k cs i x = - (k * p.upperK / (w * w) * (x - u))) := by
  intro w
  have hd : wallDistance p i x = if x < l then x - l else if u < x then x - u else 0 := by
    rw [wallDistance_nonperiodic p i x hp, hl, hu]
  refine ⟨fun ⟨h1, h2⟩ => ?_, fun h1 => ?_, fun h2 => ?_⟩
  · obtain ⟨e1, e2⟩ := walls_of_distance p hk k cs i x 0 (by rw [hd, if_neg h1.not_gt, if_neg h2.not_gt])
    rw [e1, e2]; simp
  · obtain ⟨e1, e2⟩ := walls_of_distance p hk k cs i x (x - l) (by rw [hd, if_pos h1])
    rw [e1, e2, if_neg (sub_neg.2 h1).not_gt]; exact ⟨rfl, rfl⟩
  · obtain ⟨e1, e2⟩ := walls_of_distance p hk k cs i x (x - u)
      (by rw [hd, if_neg (hlu.trans h2).not_gt, if_pos h2])
    rw [e1, e2, if_pos (sub_pos.2 h2)]; exact ⟨rfl, rfl⟩

/-- non-periodic variable with an upper wall only: zero up to the wall, harmonic in the excess beyond it -/
theorem walls_energy_upper_only (p : RParams ℝ) (hk : p.kind = .walls) (k : ℝ) (cs : List ℝ) (i : Nat) (x u : ℝ)
    (hp : p.per.getD i none = none) (hl : p.lowerWalls = none) (hu : p.upperWalls.map (·.getD i 0.0) = some u) :
    let w := p.widths.getD i 1
    (x ≤ u → rPotential p k cs i x = 0) ∧
    (u < x → rPotential p k cs i x = 0.5 * k * p.upperK / (w * w) * (x - u) ^ 2) := by
  intro w
  have hd : wallDistance p i x = if u < x then x - u else 0 := by
    rw [wallDistance_nonperiodic p i x hp, hl, hu]; rfl
  refine ⟨fun h1 => ?_, fun h2 => ?_⟩
  · rw [(walls_of_distance p hk k cs i x 0 (by rw [hd, if_neg h1.not_gt])).1]; simp
  · rw [(walls_of_distance p hk k cs i x (x - u) (by rw [hd, if_pos h2])).1, if_pos (sub_pos.2 h2)]

/-- periodic variable with both walls: only the closer wall (shortest-image distance) can act, and only
    when the value is on its outer side -/
theorem walls_periodic_closest (p : RParams ℝ) (i : Nat) (x l u P : ℝ)
    (hp : p.per.getD i none = some P) (hl : p.lowerWalls.map (·.getD i 0.0) = some l)
    (hu : p.upperWalls.map (·.getD i 0.0) = some u) :
    wallDistance p i x =
      if dist2S (some P) x l < dist2S (some P) x u then min (pdiff (some P) x l) 0
      else max (pdiff (some P) x u) 0 := by
  unfold wallDistance
  simp only [hp, hl, hu]
  simp only [Option.getD_some, dist2SGrad, lit_zero, lit_two]
  split_ifs with h1 h2 h3
  · rw [min_eq_left (by linarith)]; ring
  · rw [min_eq_right (by linarith)]
  · rw [max_eq_left (by linarith)]; ring
  · rw [max_eq_right (by linarith)]

/-- `dU/dk` is the potential per unit force constant -/
theorem dUdk_is_potential_per_k (p : RParams ℝ) (k : ℝ) (cs : List ℝ) (i : Nat) (x : ℝ) :
    rPotential p k cs i x = k * rDUdk p cs i x := by
  unfold rPotential rDUdk
  cases p.kind <;> simp only [lit_half, lit_one, lit_zero] <;> ring

/-! ## schedules are functions of the step number alone, whatever the segmentation -/

/-- the absolute step reached after a history that starts with an ordinary step -/
theorem step_number (p : RParams ℝ) (k0 : ℝ) (x0 : List ℝ) (ops : List (ROp ℝ)) :
    (rRun p (rInit p k0) (ROp.step x0 :: ops)).clock.it = p.firstStep + (advances ops : Int) := by
  exact (rRun_init_induct p (fun _ _ => True) (fun _ _ _ _ _ _ => trivial) k0 x0 trivial ops).1.it

/-- continuous moving centres: at every step inside the schedule the centre is the interpolation at
    `λ = (step - firstStep)/targetNumSteps` (then wrapped), independently of the state it is computed from —
    hence of any earlier segmentation -/
theorem centers_continuous (p : RParams ℝ) (c : Clock) (s : RState ℝ) (tgt : List ℝ)
    (ht : p.targetCenters = some tgt) (hst : p.nstages = 0) (hin : c.it - p.firstStep ≤ p.nsteps) :
    (centersMovingUpdate p c s).centers =
      List.zipWith (fun (pc : Option ℝ × ℝ) x => wrapVar pc.1 pc.2 x) (p.per.zip p.wrapC)
        (List.zipWith (fun c0 c1 => lerpS c0 c1 (((c.it - p.firstStep : Int) : ℝ) / (p.nsteps : ℝ))) p.centers0 tgt) := by
  rw [cmu_some p c s tgt ht, if_neg (not_not.2 hst), cZero_eq, cContPhase, if_pos hin]
  rfl

/-- continuous force-constant change: `k = k(λ)` with `λ = (step - firstStep)/targetNumSteps` (reversed for decoupling) -/
theorem k_continuous (p : RParams ℝ) (c : Clock) (s : RState ℝ) (xs : List ℝ)
    (hc : p.chgK = true) (hst : p.nstages = 0) (hin : c.it - p.firstStep ≤ p.nsteps) :
    (kMovingUpdate p c s xs).k =
      kOfLambda p (if p.decoupling then 1.0 - ((c.it - p.firstStep : Int) : ℝ) / (p.nsteps : ℝ)
                   else ((c.it - p.firstStep : Int) : ℝ) / (p.nsteps : ℝ)) := by
  rw [kmu_cont p c s xs hc hst, kCont, if_pos hin]

/-- staged force-constant schedule: after any history (ordinary steps, repeated steps of new runs, restarts
    from saved states, in any order) that has reached absolute step `firstStep + T`, the stage is
    `min (T / targetNumSteps) targetNumStages` and the force constant is the one prescribed for that stage -/
theorem k_staged_schedule (p : RParams ℝ) (k0 : ℝ) (x0 : List ℝ) (ops : List (ROp ℝ))
    (hc : p.chgK = true) (hn : 0 < p.nsteps) (hs : 0 < p.nstages) (htc : p.targetCenters = none) :
    let r := rRun p (rInit p k0) (ROp.step x0 :: ops)
    let T : Int := advances ops
    r.s.stage = min (T / p.nsteps) p.nstages ∧ r.s.k = kOfLambda p (stageLambda p r.s.stage) := by
  intro r T
  have h := (rRun_init_induct p (KInv p) (kInv_step hc hn hs htc) k0 x0 (kInv_init hc hs htc k0 x0) ops).2
  exact ⟨h.stage, h.k⟩

-- the hypotheses of `k_staged_schedule` can be met
example : ∃ p : RParams ℝ, p.chgK = true ∧ 0 < p.nsteps ∧ 0 < p.nstages ∧ p.targetCenters = none :=
  ⟨{ kind := .harmonic, widths := [1], per := [none], wrapC := [0], chgK := true, startK := 1, targetK := 5,
     lambdaExp := 1, nsteps := 4, nstages := 3, lowerK := 1, upperK := 1 }, by simp⟩

/-- staged moving centres: once the first step after `firstStep` has been taken, the number of centre
    updates done is `min ((T - 1) / n + 1) (stages + 1)` whatever the segmentation -/
theorem centers_staged_schedule (p : RParams ℝ) (k0 : ℝ) (x0 : List ℝ) (ops : List (ROp ℝ)) (tgt : List ℝ)
    (ht : p.targetCenters = some tgt) (hk : p.kind ≠ .walls) (hck : p.chgK = false)
    (hn : 1 < p.nsteps) (hs : 0 < p.nstages) (hT : 0 < advances ops) :
    let r := rRun p (rInit p k0) (ROp.step x0 :: ops)
    let T : Int := advances ops
    r.s.stage = min ((T - 1) / p.nsteps + 1) (p.nstages + 1) := by
  intro r T
  have _ := hT  -- not needed: the formula gives 0 at `T = 0`
  have h := (rRun_init_induct p (CInv p tgt) (cInv_step tgt ht hk hck hn hs) k0 x0
    (cInv_init tgt ht hk hck hn hs k0 x0) ops).2
  exact h.stage

/-- ... and the centres are those of the last update: the interpolation at `(stage - 1)/stages` -/
theorem centers_staged_value (p : RParams ℝ) (k0 : ℝ) (x0 : List ℝ) (ops : List (ROp ℝ)) (tgt : List ℝ)
    (ht : p.targetCenters = some tgt) (hk : p.kind ≠ .walls) (hck : p.chgK = false)
    (hn : 1 < p.nsteps) (hs : 0 < p.nstages) (hT : 0 < advances ops) :
    let r := rRun p (rInit p k0) (ROp.step x0 :: ops)
    r.s.centers =
      List.zipWith (fun (pc : Option ℝ × ℝ) x => wrapVar pc.1 pc.2 x) (p.per.zip p.wrapC)
        (List.zipWith (fun c0 c1 => lerpS c0 c1 (((r.s.stage - 1 : Int) : ℝ) / (p.nstages : ℝ))) p.centers0 tgt) := by
  intro r
  have h := (rRun_init_induct p (CInv p tgt) (cInv_step tgt ht hk hck hn hs) k0 x0
    (cInv_init tgt ht hk hck hn hs k0 x0) ops).2
  have hq : 0 ≤ ((advances ops : Int) - 1) / p.nsteps := Int.ediv_nonneg (by omega) (by omega)
  exact h.centers (by rw [h.stage]; omega)

/-- one update adds `Σ force·centre increment` (moving centres, inside the schedule, not at step 0 of a run)
    plus `Σ dU/dk · Δk` (changing force constant, not at step 0 of a run), and nothing otherwise -/
theorem work_increment (p : RParams ℝ) (c : Clock) (s : RState ℝ) (xs : List ℝ) :
    let r := restraintStep p c s xs
    let s2 := kMovingUpdate p c (if p.kind = .walls then s else centersMovingUpdate p c s) xs
    r.1.accWork = s.accWork
      + (if p.targetCenters.isSome ∧ p.kind ≠ .walls ∧ p.outputWork ∧ c.stepRelative > 0 ∧ c.it - p.firstStep ≤ p.nsteps
         then (List.zipWith (· * ·) r.2.forces s2.centersIncr).sum else 0)
      + (if p.chgK ∧ p.outputWork ∧ c.stepRelative > 0 then sumDUdk p s2.centers xs * s2.kIncr else 0) := by
  intro r s2
  have hs2 : s2 = kMovingUpdate p c (preK p c s) xs := rfl
  rw [hs2]
  simp only [r]
  rw [restraintStep_accWork]
  simp only [foldl_add_eq_sum, kmu_accWork, preK_accWork]
  split_ifs <;> ring

/-- the force-constant increment is zero once the schedule is complete, so work stops accumulating -/
theorem k_incr_zero_after_schedule (p : RParams ℝ) (c : Clock) (s : RState ℝ) (xs : List ℝ)
    (hc : p.chgK = true) (hst : p.nstages = 0) (hout : p.nsteps < c.it - p.firstStep) :
    (kMovingUpdate p c s xs).kIncr = 0 := by
  rw [kmu_cont p c s xs hc hst, kCont, if_neg (not_le.2 hout)]
  exact lit_zero

/-- a repeated step (new run in the same session) changes neither the centres nor the force constant of a
    continuous schedule, hence adds no work: the increments it computes are zero -/
theorem repeated_step_no_increment (p : RParams ℝ) (c : Clock) (s : RState ℝ) (xs : List ℝ)
    (hc : p.chgK = true) (hst : p.nstages = 0) (hin : c.it - p.firstStep ≤ p.nsteps)
    (hsame : s.k = (kMovingUpdate p c s xs).k) : (kMovingUpdate p c s xs).kIncr = 0 := by
  rw [kmu_cont p c s xs hc hst, kCont, if_pos hin] at hsame ⊢
  exact sub_eq_zero.2 hsame.symm

/-! ## staged TI: what is summed and what it is divided by -/

/-- a step is sampled iff it is not a repeat of an already processed step, it is past the set-up step
    (or an equilibration period is defined), and it lies in the post-equilibration part of its stage -/
theorem ti_accumulates (p : RParams ℝ) (c : Clock) (s : RState ℝ) (xs : List ℝ)
    (hc : p.chgK = true) (hs : 0 < p.nstages) (hgt : c.it > p.firstStep)
    (hnb : ¬ (Int.tmod (c.it - p.firstStep) p.nsteps = 0 ∧ c.it > p.firstStep)) :
    (kMovingUpdate p c s xs).restraintFE =
      s.restraintFE +
        (if (!((decide (c.stepRelative = 0) && decide (c.it > p.firstStep)) || c.cont)) = true ∧
            (p.equil = 0 ∨ Int.tmod (c.it - p.firstStep) p.nsteps ≥ p.equil)
         then tiSample p s xs else 0) := by
  rw [kmu_staged p c s xs hc (ne_of_gt hs)]
  have h1 : ¬ closes p c := fun h => hnb h.2
  have h2 : samples p c ↔ (!((decide (c.stepRelative = 0) && decide (c.it > p.firstStep)) || c.cont)) = true ∧
      (p.equil = 0 ∨ Int.tmod (c.it - p.firstStep) p.nsteps ≥ p.equil) := by
    simp only [samples, repeated, hgt, true_or, true_and, Bool.not_eq_true']
  simp only [kStaged, if_neg h1, h2]

/-- at the closing step of a stage the printed value is the accumulated sum divided by
    `targetNumSteps - targetEquilSteps`, and the accumulator restarts from zero.

    `he : 0 ≤ p.equil` cannot be dropped: for `p.equil < 0` the model samples the closing step too
    (`tmod … = 0 ≥ p.equil`), and `ti_output_original_false` refutes the statement without it (`equil = -1`). -/
theorem ti_output (p : RParams ℝ) (c : Clock) (s : RState ℝ) (xs : List ℝ)
    (hc : p.chgK = true) (hs : 0 < p.nstages) (hnf : c.it ≠ p.firstStep)
    (hrep : ((decide (c.stepRelative = 0) && decide (c.it > p.firstStep)) || c.cont) = false)
    (hb : Int.tmod (c.it - p.firstStep) p.nsteps = 0 ∧ c.it > p.firstStep) (he : 0 ≤ p.equil) :
    let s' := kMovingUpdate p c s xs
    s'.restraintFE = 0 ∧
    s'.tiOut = s.tiOut ++ [(stageLambda p s.stage,
      (s.restraintFE + (if p.equil = 0 then tiSample p s xs else 0)) / ((p.nsteps - p.equil : Int) : ℝ))] := by
  have _ := hnf  -- not needed: `hb.2`
  intro s'
  have h1 : closes p c := ⟨hrep, hb⟩
  have h2 : samples p c ↔ p.equil = 0 := by
    unfold samples repeated
    rw [hb.1]
    constructor
    · rintro ⟨-, -, h | h⟩
      · exact h
      · omega
    · exact fun h => ⟨hrep, Or.inl hb.2, Or.inl h⟩
  show (kMovingUpdate p c s xs).restraintFE = 0 ∧ (kMovingUpdate p c s xs).tiOut = _
  rw [kmu_staged p c s xs hc (ne_of_gt hs)]
  simp only [kStaged, if_pos h1, h2, and_self]

/-- `ti_output` without `0 ≤ p.equil` fails for `targetEquilSteps = -1` -/
theorem ti_output_original_false :
    ∃ (p : RParams ℝ) (c : Clock) (s : RState ℝ) (xs : List ℝ),
      p.chgK = true ∧ 0 < p.nstages ∧ c.it ≠ p.firstStep ∧
      ((decide (c.stepRelative = 0) && decide (c.it > p.firstStep)) || c.cont) = false ∧
      (Int.tmod (c.it - p.firstStep) p.nsteps = 0 ∧ c.it > p.firstStep) ∧
      ¬ ((kMovingUpdate p c s xs).restraintFE = 0 ∧
         (kMovingUpdate p c s xs).tiOut = s.tiOut ++ [(stageLambda p s.stage,
           (s.restraintFE + (if p.equil = 0 then tiSample p s xs else 0)) / ((p.nsteps - p.equil : Int) : ℝ))]) := by
  refine ⟨{ kind := .linear, widths := [1], per := [none], wrapC := [0], chgK := true, startK := 0, targetK := 1,
            lambdaExp := 1, nsteps := 1, nstages := 1, equil := -1, lowerK := 1, upperK := 1 },
          { it := 1, itRestart := 0, first := false, cont := false },
          { centers := [0], centersIncr := [0], k := 0, kIncr := 0, stage := 1, accWork := 0, restraintFE := 0,
            tiOut := [] },
          [1], rfl, by decide, by decide, by decide, by decide, ?_⟩
  rintro ⟨-, h⟩
  simp [kMovingUpdate, stageLambda, sumDUdk, rDUdk, Clock.stepRelative, List.range_succ] at h
  norm_num at h

/-! ## ABMD ratchet and histogram restraint (CvModel/Ratchet.lean) -/

namespace Ratchet
open Cv.Ratchet

/-- sign of the biased direction -/
noncomputable def sgn (p : AbmdParams ℝ) : ℝ := if p.decreasing then -1 else 1

private theorem sign_eq (p : AbmdParams ℝ) : (if p.decreasing then (-1.0 : ℝ) else 1.0) = sgn p := by
  unfold sgn; split_ifs <;> norm_num

private theorem abmdStep_some (p : AbmdParams ℝ) (r x : ℝ) :
    abmdStep p (some r) x =
      if (x - r) * sgn p > 0 then (some (if (r - p.stopping) * sgn p ≤ 0 then x else r), 0, 0)
      else (some r, 1 / 2 * p.k * ((x - r) * sgn p) * ((x - r) * sgn p), -sgn p * p.k * ((x - r) * sgn p)) := by
  unfold abmdStep
  simp only [sign_eq, lit_zero, lit_half]

/-- **closed form of the ratchet**: with reference `r` and direction `s = ±1`, energy `½ k min(0, s (x − r))²` and
    force `−s k min(0, s (x − r))`,
    i.e. nothing when the variable is ahead of the reference, a harmonic spring pulling it back to the reference otherwise -/
theorem abmd_closed_form (p : AbmdParams ℝ) (r x : ℝ) :
    let out := abmdStep p (some r) x
    out.2.1 = 0.5 * p.k * (min 0 ((x - r) * sgn p)) ^ 2 ∧
    out.2.2 = -(sgn p * p.k * min 0 ((x - r) * sgn p)) := by
  intro out
  show (abmdStep p (some r) x).2.1 = _ ∧ (abmdStep p (some r) x).2.2 = _
  rw [abmdStep_some, lit_half]
  by_cases h : (x - r) * sgn p > 0
  · rw [if_pos h, min_eq_left (le_of_lt h)]
    constructor <;> simp
  · rw [if_neg h, min_eq_right (not_lt.1 h)]
    constructor <;> ring

/-- the force is minus the derivative of the energy (behind the reference, where the energy is not flat) -/
theorem abmd_force_deriv (p : AbmdParams ℝ) (r x : ℝ) (hb : (x - r) * sgn p < 0) :
    HasDerivAt (fun y => (abmdStep p (some r) y).2.1) (-(abmdStep p (some r) x).2.2) x := by
  have hd : HasDerivAt (fun y : ℝ => (y - r) * sgn p) (sgn p) x := by
    simpa using ((hasDerivAt_id x).sub_const r).mul_const (sgn p)
  have h2 : HasDerivAt (fun y : ℝ => 1 / 2 * p.k * (((y - r) * sgn p) * ((y - r) * sgn p)))
      (1 / 2 * p.k * (sgn p * ((x - r) * sgn p) + (x - r) * sgn p * sgn p)) x :=
    (hd.mul hd).const_mul _
  have hopen : IsOpen {y : ℝ | (y - r) * sgn p < 0} :=
    isOpen_lt (by fun_prop) continuous_const
  have hev : (fun y => (abmdStep p (some r) y).2.1) =ᶠ[nhds x]
      (fun y : ℝ => 1 / 2 * p.k * (((y - r) * sgn p) * ((y - r) * sgn p))) := by
    filter_upwards [hopen.mem_nhds hb] with y hy
    have hy' : ¬ (y - r) * sgn p > 0 := not_lt.2 (le_of_lt hy)
    rw [abmdStep_some, if_neg hy']
    ring
  refine (h2.congr_of_eventuallyEq hev).congr_deriv ?_
  rw [abmdStep_some, if_neg (not_lt.2 (le_of_lt hb))]
  ring

/-- the reference only moves forward: it follows the variable when the variable is ahead and the reference has not
    passed the stopping value, and never moves otherwise -/
theorem abmd_reference_step (p : AbmdParams ℝ) (r x : ℝ) :
    (abmdStep p (some r) x).1 =
      some (if (x - r) * sgn p > 0 ∧ (r - p.stopping) * sgn p ≤ 0 then x else r) := by
  rw [abmdStep_some]
  by_cases h : (x - r) * sgn p > 0
  · rw [if_pos h]; simp only [h, true_and]
  · rw [if_neg h]; simp only [h, false_and, if_false]

theorem abmd_reference_monotone (p : AbmdParams ℝ) (r x r' : ℝ) (h : (abmdStep p (some r) x).1 = some r') :
    0 ≤ (r' - r) * sgn p := by
  rw [abmd_reference_step] at h
  have h' := Option.some.inj h
  subst h'
  split_ifs with hc
  · exact le_of_lt hc.1
  · simp

/-- the first update takes the current value as reference: no energy, no force -/
theorem abmd_first_step (p : AbmdParams ℝ) (x : ℝ) : abmdStep p none x = (some x, 0, 0) := by
  unfold abmdStep
  simp only [sub_self, zero_mul, lit_zero, lt_irrefl, if_false, mul_zero]

private theorem hasDerivAt_kernel (p : HistRParams ℝ) (n i : Nat) (y0 : ℝ) (hs : p.sigma ≠ 0) :
    HasDerivAt (fun y => kernel p n y i)
      (kernel p n y0 i * ((gridPoint p i - y0) / (p.sigma * p.sigma))) y0 := by
  unfold kernel
  simp only [lit_one, lit_two, prim_exp]
  set g := gridPoint p i
  have hd : HasDerivAt (fun y : ℝ => g - y) (-1) y0 := by
    simpa using (hasDerivAt_id y0).const_sub g
  have hu : HasDerivAt (fun y : ℝ => -1 * (g - y) * (g - y) / (2 * p.sigma * p.sigma))
      ((g - y0) / (p.sigma * p.sigma)) y0 := by
    have h1 := (((hd.mul hd).const_mul (-1 : ℝ)).div_const (2 * p.sigma * p.sigma))
    have hf : (fun y : ℝ => -1 * (g - y) * (g - y) / (2 * p.sigma * p.sigma)) =
        fun y : ℝ => -1 * ((g - y) * (g - y)) / (2 * p.sigma * p.sigma) := by
      funext y; ring
    rw [hf]
    refine h1.congr_deriv ?_
    field_simp
    ring
  refine (hu.exp.const_mul _).congr_deriv ?_
  ring

/-- histogram restraint: the energy is half the (size-scaled) force constant times the squared deviation of the
    smeared histogram from the reference -/
theorem histr_energy (p : HistRParams ℝ) (xs : List ℝ) :
    histREnergy p xs = 0.5 * (p.k * (xs.length : ℝ)) *
      ((List.zipWith (· - ·) (histogram p xs) p.ref).map (fun v => v * v)).sum := by
  unfold histREnergy
  simp only [foldl_add_zero]

/-- it vanishes, with its forces, when the histogram equals the reference -/
theorem histr_zero_at_reference (p : HistRParams ℝ) (xs : List ℝ) (h : histogram p xs = p.ref) (j : Nat) :
    histREnergy p xs = 0 ∧ histRForce p xs j = 0 := by
  have hz : ∀ l : List ℝ, List.zipWith (· - ·) l l = List.replicate l.length 0 := fun l => by
    rw [List.zipWith_self, ← List.map_const']
    exact List.map_congr_left fun a _ => sub_self a
  constructor
  · rw [histr_energy, h, hz, lit_half]
    simp
  · unfold histRForce
    simp only [h, hz, foldl_add_map_eq_sum, lit_zero, zero_add]
    apply List.sum_eq_zero
    intro v hv
    obtain ⟨i, -, rfl⟩ := List.mem_map.1 hv
    rw [getD_replicate_self]
    simp only [mul_zero, zero_mul]

/-- the force on the j-th value is minus the derivative of the energy with respect to that value -/
theorem histr_force_deriv (p : HistRParams ℝ) (xs : List ℝ) (j : Nat) (hj : j < xs.length) (hs : p.sigma ≠ 0)
    (hr : p.ref.length = p.nbins) :
    HasDerivAt (fun y => histREnergy p (xs.set j y)) (-(histRForce p xs j)) (xs.getD j 0) := by
  set y0 := xs.getD j 0 with hy0
  -- the bins as functions of the replaced value, their deviations read by index
  let H : Nat → ℝ → ℝ := fun i y => ((xs.set j y).map fun x => kernel p xs.length x i).sum
  let H' : Nat → ℝ := fun i => kernel p xs.length y0 i * ((gridPoint p i - y0) / (p.sigma * p.sigma))
  have hbin : ∀ i, HasDerivAt (H i) (H' i) y0 := fun i =>
    hasDerivAt_sum_map_set (fun x => kernel p xs.length x i) _ y0 (hasDerivAt_kernel p xs.length i y0 hs) xs j hj
  have hsq : ∀ i, HasDerivAt (fun y => (H i y - p.ref.getD i 0) * (H i y - p.ref.getD i 0))
      (2 * (H i y0 - p.ref.getD i 0) * H' i) y0 := fun i =>
    (((hbin i).sub_const _).mul ((hbin i).sub_const _)).congr_deriv (by ring)
  have hE := (hasDerivAt_list_sum (List.range p.nbins) _ _ y0 fun i _ => hsq i).const_mul (1 / 2 * (p.k * (xs.length : ℝ)))
  have hfun : (fun y => histREnergy p (xs.set j y)) = fun y => 1 / 2 * (p.k * (xs.length : ℝ)) *
      ((List.range p.nbins).map fun i => (H i y - p.ref.getD i 0) * (H i y - p.ref.getD i 0)).sum := by
    funext y
    rw [histr_energy, lit_half, histogram]
    simp only [foldl_add_zero, List.length_set]
    rw [zipWith_sub_map_range _ _ _ hr, List.map_map]
    rfl
  rw [hfun]
  refine hE.congr_deriv ?_
  have hset : xs.set j y0 = xs := by
    rw [hy0, getD_of_lt _ _ _ hj]
    exact List.set_getElem_self hj
  have hF : histRForce p xs j = ((List.range p.nbins).map fun i =>
      -(1 / 2 * (p.k * (xs.length : ℝ))) * (2 * (H i y0 - p.ref.getD i 0) * H' i)).sum := by
    unfold histRForce histogram
    simp only [foldl_add_map_eq_sum, lit_zero, lit_one, zero_add]
    rw [zipWith_sub_map_range _ _ _ hr]
    congr 1
    refine List.map_congr_left fun i hi => ?_
    rw [getD_map_of_lt _ _ _ _ (List.length_range ▸ List.mem_range.1 hi), List.getElem_range]
    simp only [H, H', hset, ← hy0]
    ring
  rw [hF, List.sum_map_mul_left]
  ring

end Ratchet

end Cv.C06
