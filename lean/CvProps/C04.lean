import CvProps.C04Lemmas
import CvProps.GridLemmas
/-!
# C04 — ABF stores the mean force per bin and applies its smoothed negative

Property theorems about `CvModel/Abf.lean` at `α := ℝ`.
A *history* is a list of step inputs `AbfIn`; `abfEvents` lists the force samples recorded along it,
`abfRun` returns the final grids and the biasing force applied at every step.
-/
open Cv

namespace Cv.C04

/-- shape invariant of an ABF state -/
structure WF (p : AbfParams ℝ) (s : AbfState ℝ) : Prop where
  samples_len : (s.samples.length : Int) = ntOf 1 p.g.nx
  grad_len : s.grad.length = s.samples.length * nvars p
  last_len : s.lastForce.length = nvars p
  sub_len : p.subtract.length = nvars p
  dims : p.g.lo.length = nvars p ∧ p.g.w.length = nvars p

/-- inputs of the right shape -/
def InOk (p : AbfParams ℝ) (i : AbfIn ℝ) : Prop := i.xs.length = nvars p ∧ i.ft.length = nvars p

theorem wf_init (p : AbfParams ℝ) (hpos : ∀ n ∈ p.g.nx, 0 < n) (hs : p.subtract.length = nvars p)
    (hd : p.g.lo.length = nvars p ∧ p.g.w.length = nvars p) : WF p (AbfState.init p) := by
  have hnt := C15.ntOf_pos p.g.nx hpos
  refine ⟨?_, ?_, ?_, hs, hd⟩
  · rw [init_samples, List.length_replicate]; omega
  · rw [init_grad, init_samples, List.length_replicate, List.length_replicate]
  · rw [init_lastForce, List.length_replicate]

/-- without any assumption on `maxForce`: every shape fact except the length of `lastForce` is preserved,
    and `lastForce` is never longer than the number of variables -/
theorem wf_step_partial (p : AbfParams ℝ) (s : AbfState ℝ) (i : AbfIn ℝ) (h : WF p s) :
    ((abfStep p s i).1.samples.length : Int) = ntOf 1 p.g.nx ∧
    (abfStep p s i).1.grad.length = (abfStep p s i).1.samples.length * nvars p ∧
    (abfStep p s i).1.lastForce.length ≤ nvars p := by
  refine ⟨?_, ?_, ?_⟩
  · rw [abfStep_samples_length]; exact h.samples_len
  · rw [abfStep_grad_length, abfStep_samples_length]; exact h.grad_len
  · rw [abfStep_lastForce, abfStep_snd]
    split_ifs
    · exact biasingForce_length_le _ _ _
    · rw [List.length_replicate]

/- `hmf` cannot be dropped: a shorter `maxForce` shortens the capped force, hence `lastForce` (`wf_step_original_false`). -/
theorem wf_step (p : AbfParams ℝ) (s : AbfState ℝ) (i : AbfIn ℝ) (h : WF p s) (_hi : InOk p i)
    (hmf : ∀ m, p.maxForce = some m → nvars p ≤ m.length) :
    WF p (abfStep p s i).1 := by
  obtain ⟨h1, h2, -⟩ := wf_step_partial p s i h
  refine ⟨h1, h2, ?_, h.sub_len, h.dims⟩
  rw [abfStep_lastForce, abfStep_snd]
  split_ifs
  · exact biasingForce_length _ _ _ hmf
  · rw [List.length_replicate]

/-- `wf_step` without `hmf` is false: one variable, `maxForce` given as an empty list -/
theorem wf_step_original_false : ¬ ∀ (p : AbfParams ℝ) (s : AbfState ℝ) (i : AbfIn ℝ), WF p s → InOk p i →
    WF p (abfStep p s i).1 := by
  intro H
  let p : AbfParams ℝ :=
    { g := { nx := [4], lo := [0], w := [1] }, subtract := [false], maxForce := some [] }
  have hw : WF p (AbfState.init p) :=
    wf_init p (by intro n hn; simp [p] at hn; omega) rfl ⟨rfl, rfl⟩
  have h := (H p (AbfState.init p) ⟨[0], [0], false, false⟩ hw ⟨rfl, rfl⟩).last_len
  have hb : binsOf p.g [0] = [0] := by simp [binsOf, valueToBin, p]
  rw [abfStep_lastForce, abfStep_snd] at h
  simp only [hb] at h
  rw [if_pos (by simp [p, indexOk]), biasingForce_length_eq, show p.maxForce = some [] from rfl] at h
  simp [nvars, p] at h

/-! ## the stored count and gradient are exactly the recorded samples -/

/-- after any history, the count of every bin is its initial count plus the number of samples attributed to it -/
theorem count_eq (p : AbfParams ℝ) (s : AbfState ℝ) (h : List (AbfIn ℝ)) (hw : WF p s)
    (hin : ∀ i ∈ h, InOk p i) (a : Nat) (ha : a < s.samples.length) :
    (abfRun p s h).1.samples.getD a 0 = s.samples.getD a 0 + ((eventsAt p a (abfEvents p s h)).length : Int) := by
  have _ := And.intro hw hin  -- not needed: holds from any state
  exact abfRun_samples_getD p h s a ha

/-- ... and the stored gradient is the initial one minus the sum of those force samples, per variable -/
theorem grad_eq (p : AbfParams ℝ) (s : AbfState ℝ) (h : List (AbfIn ℝ)) (hw : WF p s)
    (hin : ∀ i ∈ h, InOk p i) (a : Nat) (ha : a < s.samples.length) (j : Nat) (hj : j < nvars p) :
    (abfRun p s h).1.grad.getD (a * nvars p + j) 0 =
      s.grad.getD (a * nvars p + j) 0 - ((eventsAt p a (abfEvents p s h)).map (fun e => e.2.getD j 0)).sum := by
  have _ := hin  -- not needed
  exact abfRun_grad_getD p hw.sub_len.le h s a j hw.grad_len ha hj

/-- hence, starting from empty grids, gradient / count is minus the arithmetic mean of the samples of the bin -/
theorem mean_eq (p : AbfParams ℝ) (h : List (AbfIn ℝ)) (hpos : ∀ n ∈ p.g.nx, 0 < n)
    (hs : p.subtract.length = nvars p) (hd : p.g.lo.length = nvars p ∧ p.g.w.length = nvars p)
    (hin : ∀ i ∈ h, InOk p i) (a : Nat) (ha : (a : Int) < ntOf 1 p.g.nx) (j : Nat) (hj : j < nvars p)
    (hn : 0 < (eventsAt p a (abfEvents p (AbfState.init p) h)).length) :
    let fin := (abfRun p (AbfState.init p) h).1
    let ev := eventsAt p a (abfEvents p (AbfState.init p) h)
    fin.samples.getD a 0 = (ev.length : Int) ∧
    fin.grad.getD (a * nvars p + j) 0 / (ev.length : ℝ) = - ((ev.map (fun e => e.2.getD j 0)).sum / (ev.length : ℝ)) := by
  intro fin ev
  have _ := hn  -- not needed: else `0 / 0 = -(0 / 0)`
  have hw := wf_init p hpos hs hd
  have ha' : a < (AbfState.init p).samples.length := by
    rw [init_samples, List.length_replicate]; omega
  have hc := count_eq p _ h hw hin a ha'
  have hg := grad_eq p _ h hw hin a ha' j hj
  have i1 : (AbfState.init p).samples.getD a 0 = 0 := by rw [init_samples]; exact getD_replicate_self _ _ _
  have i2 : (AbfState.init p).grad.getD (a * nvars p + j) 0 = 0 := by rw [init_grad]; exact getD_replicate_self _ _ _
  refine ⟨by rw [hc, i1, zero_add], ?_⟩
  rw [hg, i2]
  ring

/-! ## which sample is recorded: attributed to the bin occupied when the force acted, minus the ABF force applied then -/

/-- one-step-late total forces: the sample of step `t` goes to the bin occupied at step `t-1`, and the
    ABF force applied at step `t-1` is removed from it unless the variable already subtracts applied forces -/
theorem event_late (p : AbfParams ℝ) (s : AbfState ℝ) (prev cur : AbfIn ℝ) (hw : WF p s) (hp : InOk p prev) (hc : InOk p cur)
    (hl : p.tfCurrent = false) :
    let s1 := (abfStep p s prev).1
    let fprev := (abfStep p s prev).2
    abfEvent p s1 cur =
      if cur.elig && p.updateBias && cur.timingOk && indexOk p.g.nx (binsOf p.g prev.xs) then
        some (binsOf p.g prev.xs,
              (List.zip (List.zip cur.ft fprev) p.subtract).map fun ((f, l), sub) => if sub then f else f - l)
      else none := by
  have _ := And.intro hw (And.intro hp hc)  -- not needed: `abfEvent_eq` is `rfl`
  intro s1 fprev
  rw [abfEvent_eq, systemForce_late p s1 cur.ft hl]
  simp only [hl, Bool.false_eq_true, if_false]
  rfl

/-- same-step total forces: the sample goes to the current bin and nothing is subtracted -/
theorem event_current (p : AbfParams ℝ) (s : AbfState ℝ) (cur : AbfIn ℝ) (hw : WF p s) (hc : InOk p cur)
    (hl : p.tfCurrent = true) :
    abfEvent p s cur =
      if cur.elig && p.updateBias && cur.timingOk && indexOk p.g.nx (binsOf p.g cur.xs) then
        some (binsOf p.g cur.xs, cur.ft) else none := by
  rw [abfEvent_eq, systemForce_current p s cur.ft hl (by rw [hw.last_len, hc.2]) (by rw [hw.sub_len, hc.2])]
  simp only [hl, if_true]

/-- nothing is recorded at ineligible steps, with `updateBias off`, or before a total force exists -/
theorem no_event (p : AbfParams ℝ) (s : AbfState ℝ) (i : AbfIn ℝ)
    (h : i.elig = false ∨ p.updateBias = false ∨ i.timingOk = false) : abfEvent p s i = none := by
  rw [abfEvent_eq]
  rcases h with h | h | h <;> simp [h]

/-! ## the applied force -/

theorem force_zero (p : AbfParams ℝ) (s : AbfState ℝ) (i : AbfIn ℝ)
    (h : p.applyBias = false ∨ indexOk p.g.nx (binsOf p.g i.xs) = false) :
    (abfStep p s i).2 = List.replicate (nvars p) 0 := by
  rw [abfStep_snd, lit_zero]
  rcases h with h | h <;> simp [h]

/-- the smoothing weight is the documented ramp divided by the count -/
theorem smooth_is_ramp (p : AbfParams ℝ) (n : Int) (hn : 0 < n) (hm : 0 ≤ p.minSamples) (hf : p.minSamples < p.fullSamples) :
    smoothInvWeight p n = ramp p n / (n : ℝ) := by
  have _ := And.intro hm hn  -- not needed: same fraction for every `n`
  unfold smoothInvWeight
  by_cases h1 : n ≤ p.minSamples
  · rw [if_pos h1, ramp_zero p hf n h1, zero_div, lit_zero]
  · rw [if_neg h1]
    by_cases h2 : n < p.fullSamples
    · rw [if_pos h2, ramp_mid p n (by omega) h2, div_div, mul_comm, Int.cast_sub, Int.cast_sub]
    · rw [if_neg h2, ramp_one p n (by omega), lit_one]

/-- the ramp is 0 up to minSamples, 1 from fullSamples, affine and increasing in between, always in [0, 1] -/
theorem ramp_props (p : AbfParams ℝ) (hm : 0 ≤ p.minSamples) (hf : p.minSamples < p.fullSamples) :
    (∀ n, n ≤ p.minSamples → ramp p n = 0) ∧ (∀ n, p.fullSamples ≤ n → ramp p n = 1) ∧
    (∀ n m, n ≤ m → ramp p n ≤ ramp p m) ∧ (∀ n, 0 ≤ ramp p n ∧ ramp p n ≤ 1) := by
  have _ := hm  -- not needed
  exact ⟨fun n h => ramp_zero p hf n h, fun n h => ramp_one p n h, ramp_mono p hf, ramp_bounds p hf⟩

/-- inside the grid, without the periodic correction and the cap, the force on variable `j` is
    ramp(count) times (stored gradient / count) of the current bin — i.e. minus the ramped mean force sample -/
theorem force_is_ramped_mean (p : AbfParams ℝ) (s : AbfState ℝ) (bin : List Int) (j : Nat) (hj : j < nvars p)
    (hp : p.periodic1D = false) (hc : p.maxForce = none) (hm : 0 ≤ p.minSamples) (hf : p.minSamples < p.fullSamples)
    (hn : 0 < s.samples.getD (address 1 p.g.nx bin).toNat 0) :
    let a := (address 1 p.g.nx bin).toNat
    (biasingForce p s bin).getD j 0 =
      ramp p (s.samples.getD a 0) * (s.grad.getD (a * nvars p + j) 0 / ((s.samples.getD a 0 : Int) : ℝ)) := by
  intro a
  rw [biasingForce_eq, hc, hp, capForce_none, if_neg (by simp),
    getD_of_lt _ _ _ (by simpa using hj), List.getElem_map, List.getElem_range,
    smooth_is_ramp p _ hn hm hf, lit_zero]
  ring

theorem force_capped (mf f : List ℝ) (hl : mf.length = f.length) (hpos : ∀ m ∈ mf, 0 ≤ m) (j : Nat) (hj : j < f.length) :
    |(capForce (some mf) f).getD j 0| ≤ mf.getD j 0 := by
  have hjm : j < mf.length := by omega
  rw [capForce_some, getD_zipWith_of_lt _ _ _ _ 0 0 _ hj hjm]
  have hm : 0 ≤ mf.getD j 0 := by
    rw [getD_of_lt _ _ _ hjm]; exact hpos _ (List.getElem_mem _)
  generalize mf.getD j 0 = m at hm ⊢
  generalize f.getD j 0 = x
  split_ifs with h1 h2
  · rw [abs_of_nonneg hm]
  · rw [show (-1.0 : ℝ) * m = -m by norm_num, abs_neg, abs_of_nonneg hm]
  · rw [← abs_of_nonneg hm]
    exact abs_le_iff_mul_self_le.2 (not_lt.1 h1)

/-- one periodic variable, every bin sampled at least fullSamples times: the biasing force has zero mean over the grid,
    i.e. the biasing potential is periodic -/
theorem periodic_zero_mean (p : AbfParams ℝ) (s : AbfState ℝ) (n : Nat) (hn : 0 < n)
    (hnx : p.g.nx = [(n : Int)]) (hp : p.periodic1D = true) (hc : p.maxForce = none)
    (hm : 0 ≤ p.minSamples) (hf : p.minSamples < p.fullSamples)
    (hs : s.samples.length = n) (hg : s.grad.length = n) (hfull : ∀ c ∈ s.samples, p.fullSamples ≤ c) :
    ((List.range n).map fun b => (biasingForce p s [(b : Int)]).getD 0 0).sum = 0 := by
  -- trap: the statement has the list coerced (`do let a ← List.range n; pure ↑a`), not the element
  rw [bind_pure_comp, List.map_eq_map, List.map_map]
  show ((List.range n).map fun b : Nat => (biasingForce p s [(b : Int)]).getD 0 0).sum = 0
  have hnv : nvars p = 1 := by simp [nvars, hnx]
  -- the bin averages `grad / count`, as `gridAverage` computes them
  set W : List ℝ := List.zipWith
    (fun (d : ℝ) (c : Int) => if c > 0 then (1.0 / (c : ℝ)) * d else 0.0 * d) s.grad s.samples with hW
  have hWl : W.length = n := by rw [hW, List.length_zipWith, hs, hg, Nat.min_self]
  have havg : gridAverage s (p.g.nx.getD 0 1) = W.sum / (n : ℝ) := by
    unfold gridAverage
    rw [hnx]
    simp only [List.getD_cons_zero]
    rw [sumL_eq_sum]
    rfl
  have hforce : ∀ b ∈ List.range n, (biasingForce p s [((b : Nat) : Int)]).getD 0 0 =
      W.getD b 0 - W.sum / (n : ℝ) := by
    intro b hb
    have hb' : b < n := List.mem_range.1 hb
    have hcb : p.fullSamples ≤ s.samples.getD b 0 := by
      rw [getD_of_lt _ _ _ (by omega)]; exact hfull _ (List.getElem_mem _)
    rw [biasingForce_eq, hc, hp, capForce_none, if_pos rfl, havg, hnx, C15.address_single, hnv, hW,
      getD_zipWith_of_lt _ _ _ _ (0 : ℝ) (0 : Int) _ (by omega) (by omega), if_pos (by omega)]
    simp only [Int.toNat_natCast, List.range_one, List.map_cons, List.map_nil, List.getD_cons_zero,
      mul_one, add_zero]
    rw [smooth_is_ramp p _ (by omega) hm hf, ramp_one p _ hcb, lit_zero, lit_one]
  rw [List.map_congr_left hforce, sum_map_sub_const, List.length_range, map_getD_range_self W 0 n hWl]
  have hn' : (n : ℝ) ≠ 0 := by exact_mod_cast hn.ne'
  field_simp
  ring

/-! ## non-vacuity -/

example : ∃ p : AbfParams ℝ, (∀ n ∈ p.g.nx, 0 < n) ∧ p.subtract.length = nvars p ∧
    (p.g.lo.length = nvars p ∧ p.g.w.length = nvars p) ∧ 0 ≤ p.minSamples ∧ p.minSamples < p.fullSamples :=
  ⟨{ g := { nx := [4], lo := [0], w := [1] }, subtract := [false] },
    by intro n hn; simp at hn; omega, rfl, ⟨rfl, rfl⟩, by decide, by decide⟩

end Cv.C04
