import CvProps.C01
import CvProps.C02
import CvProps.C03
import CvProps.C04
import CvProps.C05
import CvProps.C06
import CvProps.C07
import CvProps.C08
import CvProps.C09
import CvProps.C10
import CvProps.C11
import CvProps.C12
import CvProps.C13
import CvProps.C14
import CvProps.C15
import CvProps.C16
import CvProps.C17
import CvProps.C18
import CvProps.C19
import CvProps.C20
/-! `lake build CvProps.All` checks every proof; the default target builds the model and the driver only. -/
