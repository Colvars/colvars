import CvProps.Base
import CvProps.C20Lemmas
/-!
# C20, second file — components switched off and on by script (`cv colvar <name> cvcflags`, model `CvModel/Combine.lean`)
and objects deleted by script (model `CvModel/Objects.lean`)

"Script-driven actions have the same effect as the equivalent configuration": a variable whose flags leave a subset of its
components on reports the value and the total force of a variable configured with only those components.
-/
open Cv Cv.Combine

namespace Cv.C20

theorem lit0 : (0.0 : ℝ) = 0 := lit_zero

/-- `collect_cvc_values` / `collect_cvc_total_forces`: the loop is the sum over the components that are on -/
theorem sumActive_eq (cs : Comps ℝ) (xs : List ℝ) (f : ℝ → ℝ → ℝ) :
    sumActive cs xs f = (List.zipWith (fun (cb : ℝ × Bool) x => if cb.2 then f cb.1 x else 0) cs xs).sum := by
  rw [sumActive, foldl_add_eq_sum, lit_zero, zero_add]

/-- `active_cvc_square_norm` is `Σ c_i²` over the components that are on -/
theorem activeNorm_eq (cs : Comps ℝ) : activeNorm cs = (cs.map fun cb => if cb.2 then cb.1 * cb.1 else 0).sum := by
  rw [activeNorm, foldl_add_eq_sum, lit_zero, zero_add]

/-- all components of a list switched on -/
def allOn (cs : Comps ℝ) : Comps ℝ := cs.map fun cb => (cb.1, true)

private theorem onlyActive_cons_off (c x : ℝ) (cs : Comps ℝ) (xs : List ℝ) :
    onlyActive ((c, false) :: cs) (x :: xs) = onlyActive cs xs := rfl

private theorem onlyActive_cons_on (c x : ℝ) (cs : Comps ℝ) (xs : List ℝ) :
    onlyActive ((c, true) :: cs) (x :: xs) = ((c, true) :: (onlyActive cs xs).1, x :: (onlyActive cs xs).2) := rfl

theorem sum_only_active (cs : Comps ℝ) (f : ℝ → ℝ → ℝ) : ∀ xs : List ℝ,
    sumActive cs xs f = sumActive (allOn (onlyActive cs xs).1) (onlyActive cs xs).2 f := by
  induction cs with
  | nil => intro xs; rfl
  | cons c cs ih =>
    intro xs
    cases xs with
    | nil => rw [sumActive_eq, sumActive_eq]; rfl
    | cons x xs =>
      have h := ih xs
      rw [sumActive_eq, sumActive_eq] at h ⊢
      rw [List.zipWith_cons_cons, List.sum_cons, h]
      obtain ⟨cc, cb⟩ := c
      cases cb
      · rw [onlyActive_cons_off, if_neg Bool.false_ne_true, zero_add]
      · rw [onlyActive_cons_on, if_pos rfl]; exact (List.sum_cons ..).symm

theorem norm_only_active (cs : Comps ℝ) : ∀ xs : List ℝ, cs.length = xs.length →
    activeNorm cs = activeNorm (allOn (onlyActive cs xs).1) := by
  induction cs with
  | nil => intro xs _; rfl
  | cons c cs ih =>
    intro xs hl
    cases xs with
    | nil => exact absurd hl (Nat.succ_ne_zero _)
    | cons x xs =>
      have h := ih xs (Nat.succ.inj hl)
      rw [activeNorm_eq, activeNorm_eq] at h ⊢
      rw [List.map_cons, List.sum_cons, h]
      obtain ⟨cc, cb⟩ := c
      cases cb
      · rw [onlyActive_cons_off, if_neg Bool.false_ne_true, zero_add]
      · rw [onlyActive_cons_on, if_pos rfl]; exact (List.sum_cons ..).symm

/-- **flags ≡ configuration**: with any pattern of flags, the value, the norm `Σ c²` and the total force the variable reports are
    those of a variable that was configured with only the components that are on -/
theorem flags_equal_configuration (cs : Comps ℝ) (qs fs : List ℝ) (hq : cs.length = qs.length) (hf : cs.length = fs.length) :
    value cs qs = value (allOn (onlyActive cs qs).1) (onlyActive cs qs).2 ∧
    totalForce cs fs = totalForce (allOn (onlyActive cs fs).1) (onlyActive cs fs).2 := by
  have _ := hq  -- not needed: zip stops at the shorter list
  refine ⟨sum_only_active cs _ qs, ?_⟩
  unfold totalForce
  rw [sum_only_active cs _ fs, norm_only_active cs fs hf]

/-- the norm depends on *which* components are on, not on how many: exchanging the active component of a two-component variable
    with coefficients 1 and 3 changes it from 1 to 9 (a norm recomputed only when the count changes stays at 1) -/
theorem norm_depends_on_membership :
    activeNorm ([(1, true), (3, false)] : Comps ℝ) = 1 ∧ activeNorm ([(1, false), (3, true)] : Comps ℝ) = 9 := by
  constructor <;> (rw [activeNorm_eq]; norm_num)

/-- inverse property under flags: when every active component carries the force `F·c_i` that applying `F` to the variable gives it,
    the reported total force is `F` -/
theorem flags_total_force_inverse (cs : Comps ℝ) (F : ℝ) (hn : activeNorm cs ≠ 0) :
    totalForce cs (cs.map fun cb => F * cb.1) = F := by
  unfold totalForce
  rw [div_eq_iff hn, sumActive_eq, activeNorm_eq, List.zipWith_map_right, List.zipWith_self, ← List.sum_map_mul_left]
  exact congrArg _ (List.map_congr_left fun cb _ => by split_ifs <;> ring)


/-! ## objects deleted by script (`cv colvar <name> delete`, `cv bias <name> delete`) -/
section objects
open Cv.Objects


theorem deleteBias_refs_lt (o : Objs) (v b : String) (hb : b ∈ o.refs v) :
    ((deleteBias o b).refs v).length < (o.refs v).length :=
  length_filter_bne_lt hb

/-- the destructor's loop ends: with as many rounds as there are registered biases the back-reference list is empty -/
theorem delLoop_clears : ∀ (n : Nat) (o : Objs) (v : String), (o.refs v).length ≤ n → (delLoop n o v).refs v = [] := by
  intro n o v h
  rw [delLoop_eq h]
  exact List.filter_eq_nil_iff.mpr fun b hb => by simp [hb]

theorem deleteBias_registered (o : Objs) (v b : String) (h : Registered o v) : Registered (deleteBias o b) v :=
  deleteBias_eq o b ▸ without_registered _ h

theorem delLoop_registered : ∀ (n : Nat) (o : Objs) (v : String), Registered o v → Registered (delLoop n o v) v :=
  fun n o v => delLoop_induct (fun o b _ => deleteBias_registered o v b) n o

/-- a bias not registered with the variable survives the loop, with its configuration -/
theorem delLoop_keeps : ∀ (n : Nat) (o : Objs) (v : String) (p : String × List String),
    p ∈ o.biases → p.1 ∉ o.refs v → p ∈ (delLoop n o v).biases := by
  intro n o v p hp hn
  -- both facts together are kept by every deletion of a registered bias: its name is not `p.1`
  refine (delLoop_induct (P := fun o => p ∈ o.biases ∧ p.1 ∉ o.refs v) (fun o b hb h => ⟨?_, ?_⟩) n o ⟨hp, hn⟩).1
  · have hne : p.1 ≠ b := fun e => h.2 (e ▸ hb)
    exact List.mem_filter.mpr ⟨h.1, by simpa using hne⟩
  · exact fun hm => h.2 (List.mem_filter.mp hm).1

/-- nothing is created: what is left after the loop was there before -/
theorem delLoop_subset : ∀ (n : Nat) (o : Objs) (v : String) (p : String × List String),
    p ∈ (delLoop n o v).biases → p ∈ o.biases := fun n o v p =>
  delLoop_induct (v := v) (P := fun o' => p ∈ o'.biases → p ∈ o.biases)
    (fun _ _ _ h hp => h (List.mem_filter.mp hp).1) n o id

theorem ofConfig_registered (vars : List String) (biases : List (String × List String)) (v : String) :
    Registered (ofConfig vars biases) v := fun p hp hv =>
  List.mem_map.mpr ⟨p, List.mem_filter.mpr ⟨hp, by simpa using hv⟩, rfl⟩

theorem deleteBias_vars (o : Objs) (b : String) : (deleteBias o b).vars = o.vars := rfl

theorem delLoop_vars : ∀ (n : Nat) (o : Objs) (v : String), (delLoop n o v).vars = o.vars := fun n o v =>
  delLoop_induct (v := v) (P := fun o' => o'.vars = o.vars) (fun _ _ _ h => h) n o rfl

/-- the list of variables after deleting one is the old list without it, in the same order -/
theorem delete_variable_vars (o : Objs) (v : String) : (deleteVar o v).vars = o.vars.filter (· != v) := by
  rw [deleteVar_eq]

example : ((deleteVar (ofConfig ["d", "z", "v"] [("h", ["d", "z"]), ("hs", ["z"]), ("k", ["d"])]) "z").vars,
    (deleteVar (ofConfig ["d", "z", "v"] [("h", ["d", "z"]), ("hs", ["z"]), ("k", ["d"])]) "z").biases) =
    (["d", "v"], [("k", ["d"])]) := by decide

/-- what the loop leaves, in closed form: the biases not registered with the variable, in their original order -/
theorem delLoop_biases : ∀ (n : Nat) (o : Objs) (v : String), (o.refs v).length ≤ n →
    (delLoop n o v).biases = o.biases.filter (fun p => !(o.refs v).contains p.1) := by
  intro n o v h
  rw [delLoop_eq h]; rfl

/-- `cv colvar v delete` in closed form -/
theorem deleteVar_closed (o : Objs) (v : String) :
    (deleteVar o v).vars = o.vars.filter (· != v) ∧
    (deleteVar o v).biases = o.biases.filter (fun p => !(o.refs v).contains p.1) := by
  rw [deleteVar_eq]; exact ⟨rfl, rfl⟩

/-- the back-reference lists after the loop, in closed form -/
theorem delLoop_refs : ∀ (n : Nat) (o : Objs) (v w : String), (o.refs v).length ≤ n →
    (delLoop n o v).refs w = (o.refs w).filter (fun b => !(o.refs v).contains b) := by
  intro n o v w h
  rw [delLoop_eq h]; rfl

/-- **deleting a variable** (any number of dependent biases): the variable is gone, no remaining bias depends on it, every bias
    that was not registered with it is still there unchanged, nothing new appears, and the other variables are untouched. -/
theorem delete_variable (o : Objs) (v : String) (h : Registered o v) :
    v ∉ (deleteVar o v).vars ∧
    (∀ p ∈ (deleteVar o v).biases, v ∉ p.2) ∧
    (∀ p ∈ o.biases, p.1 ∉ o.refs v → p ∈ (deleteVar o v).biases) ∧
    (∀ p ∈ (deleteVar o v).biases, p ∈ o.biases) ∧
    (∀ w, w ≠ v → (w ∈ (deleteVar o v).vars ↔ w ∈ (delLoop (o.refs v).length o v).vars)) := by
  rw [delLoop_vars, deleteVar_eq]
  refine ⟨fun hv => absurd (List.mem_filter.mp hv).2 (by simp), ?_, ?_, ?_,
    fun w hw => List.mem_filter.trans (and_iff_left (bne_iff_ne.mpr hw))⟩
  · intro p hp hv
    have hp' := List.mem_filter.mp hp
    simpa [h p hp'.1 hv] using hp'.2
  · exact fun p hp hn => List.mem_filter.mpr ⟨hp, by simpa using hn⟩
  · exact fun p hp => (List.mem_filter.mp hp).1


/-- **the order of deletions does not matter**: deleting two variables one after the other leaves the same variables and the same
    biases (same order, same configuration) whichever goes first. -/
theorem delete_variables_commute (o : Objs) (v w : String) :
    (deleteVar (deleteVar o v) w).vars = (deleteVar (deleteVar o w) v).vars ∧
    (deleteVar (deleteVar o v) w).biases = (deleteVar (deleteVar o w) v).biases := by
  simp only [deleteVar_eq, without, List.filter_filter]
  simp only [not_contains_filter_not]
  exact ⟨List.filter_congr fun x _ => Bool.and_comm _ _, List.filter_congr fun p _ => Bool.and_comm _ _⟩

theorem deleteVar_registered (o : Objs) (v w : String) (h : Registered o w) : Registered (deleteVar o v) w := by
  rw [deleteVar_eq]; exact without_registered _ h

theorem applyDel_registered (o : Objs) (op : DelOp) (h : ∀ w, Registered o w) : ∀ w, Registered (applyDel o op) w := by
  intro w
  cases op with
  | var v => exact deleteVar_registered o v w (h w)
  | bias b => exact deleteBias_registered o w b (h w)

theorem applyDel_subset (o : Objs) (op : DelOp) : ∀ p ∈ (applyDel o op).biases, p ∈ o.biases := by
  intro p hp
  cases op with
  | var v => exact delLoop_subset _ o v p hp
  | bias b => exact (List.mem_filter.mp hp).1

theorem runDel_subset (ops : List DelOp) : ∀ (o : Objs), ∀ p ∈ (ops.foldl applyDel o).biases, p ∈ o.biases := by
  intro o
  refine List.foldlRecOn (motive := fun o' => ∀ p ∈ o'.biases, p ∈ o.biases) ops applyDel (fun _ h => h) ?_
  exact fun o' ih op _ p hp => ih p (applyDel_subset o' op p hp)

/-- **any sequence of deletions**, starting from any configuration: once a variable has been deleted no bias that depends on it is
    left, then or at any later point of the sequence (a bias never outlives a variable it reads). -/
theorem deletions_leave_no_dangling_bias (vars : List String) (biases : List (String × List String)) (pre post : List DelOp) (v : String) :
    ∀ p ∈ ((pre ++ DelOp.var v :: post).foldl applyDel (ofConfig vars biases)).biases, v ∉ p.2 := by
  intro p hp
  rw [List.foldl_append, List.foldl_cons] at hp
  have hreg : ∀ w, Registered (pre.foldl applyDel (ofConfig vars biases)) w :=
    List.foldlRecOn (motive := fun o => ∀ w, Registered o w) pre applyDel (ofConfig_registered vars biases)
      fun o h op _ => applyDel_registered o op h
  exact (delete_variable _ v (hreg v)).2.1 p (runDel_subset post _ p hp)


end objects

end Cv.C20
