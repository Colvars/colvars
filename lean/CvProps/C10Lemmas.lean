import CvModel.Validate
/-!
# C10 — the guarded remainders of `CvModel/Validate.lean` are defined for every frequency
-/
open Cv Cv.Validate

namespace Cv.C10

theorem safeMod_of_ne {a b : Int} (h : b ≠ 0) : safeMod a b = some (Int.tmod a b) :=
  if_neg h

theorem metaDeposit_isSome (hd : Bool) (freq it : Int) (canAcc : Bool) : (metaDeposit hd freq it canAcc).isSome = true := by
  unfold metaDeposit
  split
  · next h =>
    have : freq ≠ 0 := by simp only [Bool.and_eq_true, decide_eq_true_eq] at h; omega
    rw [safeMod_of_ne this]; rfl
  · rfl

/-- `abfHistoryWrite` is the same function under another name: this is its lemma as well -/
theorem metaGridUpdate_isSome (freq it : Int) : (metaGridUpdate freq it).isSome = true := by
  unfold metaGridUpdate
  split
  · next h => rw [safeMod_of_ne (by omega)]; rfl
  · rfl

end Cv.C10
