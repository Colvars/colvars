import CvProps.C19Lemmas
/-!
# C19 — written outputs: announced columns, line schedule, running average and deviation, correlation functions

Property theorems about `CvModel/Output.lean` and `CvModel/Acf.lean`.
-/
open Cv

namespace Cv.C19

/-! ## the fields written are the columns announced, in order -/

theorem cv_columns_match (f : CvFlags) : (cvLabels f).map (·.2) = cvFields f := by
  -- both are built block by block from the same flags; only `extended` changes the shape of a block
  unfold cvLabels cvFields
  simp only [List.map_append, apply_ite (List.map Prod.snd), List.map_cons, List.map_nil]
  cases f.extended <;> rfl

theorem bias_columns_match (f : BiasFlags) : (biasLabels f).map (·.2) = biasFields f := by
  unfold biasLabels biasFields
  simp only [List.map_append, apply_ite (List.map Prod.snd), List.map_cons, List.map_nil, List.map_map]
  rfl

/-- hence for any list of variables and biases the whole label line and the whole data line agree -/
theorem line_columns_match (cvs : List CvFlags) (bs : List BiasFlags) :
    (cvs.flatMap fun f => (cvLabels f).map (·.2)) ++ (bs.flatMap fun f => (biasLabels f).map (·.2)) =
    (cvs.flatMap cvFields) ++ (bs.flatMap biasFields) := by
  simp only [cv_columns_match, bias_columns_match]

/-! ## one data line per multiple of the frequency -/

def dataSteps : List TrajLine → List Int
  | [] => []
  | .data s :: r => s :: dataSteps r
  | .label :: r => dataSteps r

/-- the data lines of a run are the steps that are multiples of the frequency, in the order they were taken, each once
    per `update` call on that step -/
theorem one_line_per_multiple (freq : Int) (flag : Bool) (run : List (Clock × Bool)) :
    dataSteps (trajRun freq flag run) =
      (run.filter fun cb => decide (Int.tmod cb.1.it freq = 0)).map (·.1.it) := by
  have happ : ∀ a b : List TrajLine, dataSteps (a ++ b) = dataSteps a ++ dataSteps b := by
    intro a b
    induction a with
    | nil => rfl
    | cons x a ih => cases x <;> simp [dataSteps, ih]
  -- a label is no data line; the data line is there on multiples of the frequency
  have hlab (b : Bool) : dataSteps (if b then [TrajLine.label] else []) = [] := by cases b <;> rfl
  have hdat (b : Bool) (s : Int) : dataSteps (if b then [TrajLine.data s] else []) = if b then [s] else [] := by
    cases b <;> rfl
  induction run generalizing flag with
  | nil => rfl
  | cons cb rest ih =>
    obtain ⟨c, changed⟩ := cb
    rw [trajRun, happ, ih, trajStep_fst, happ, hlab, hdat, List.nil_append, List.filter_cons]
    split <;> rfl

/-! ## every data line follows the label line of its columns -/

/-- lines tagged with the version of the column set in force when they were written; the version grows whenever the
    configuration changed before a step -/
def trajRunV (freq : Int) : Bool → Nat → List (Clock × Bool) → List (TrajLine × Nat)
  | _, _, [] => []
  | flag, v, (c, changed) :: rest =>
    let v' := if changed then v + 1 else v
    let r := trajStep freq c (flag || changed)
    r.1.map (fun l => (l, v')) ++ trajRunV freq r.2 v' rest

/-- scanning a file: `cur` is the version announced by the last label line (none before any label) -/
def wellLabelled : Option Nat → List (TrajLine × Nat) → Bool
  | _, [] => true
  | _, (.label, v) :: r => wellLabelled (some v) r
  | cur, (.data _, v) :: r => (cur == some v) && wellLabelled cur r

/-- starting with the "write labels" flag raised (as after initialisation), every data line of every run follows a
    label line written for the very same set of columns -/
theorem labels_precede_data (freq : Int) (v : Nat) (run : List (Clock × Bool)) :
    wellLabelled none (trajRunV freq true v run) = true := by
  -- one step's lines: a label announces its version, a data line of that version passes
  have scan_label (b : Bool) (cur : Option Nat) (v : Nat) (r : List (TrajLine × Nat)) :
      wellLabelled cur ((if b then [TrajLine.label] else []).map (·, v) ++ r) = wellLabelled (if b then some v else cur) r := by
    cases b <;> rfl
  have scan_data (b : Bool) (s : Int) (v : Nat) (r : List (TrajLine × Nat)) :
      wellLabelled (some v) ((if b then [TrajLine.data s] else []).map (·, v) ++ r) = wellLabelled (some v) r := by
    cases b
    · rfl
    · exact (congrArg (· && _) (beq_self_eq_true (some v))).trans (Bool.true_and _)
  -- invariant of a scan: the flag is up, or the last label carries the current version
  have scan_ok : ∀ (run : List (Clock × Bool)) (flag : Bool) (v : Nat) (cur : Option Nat),
      (flag = true ∨ cur = some v) → wellLabelled cur (trajRunV freq flag v run) = true := by
    intro run
    induction run with
    | nil => intros; rfl
    | cons cb rest ih =>
      intro flag v cur h
      obtain ⟨c, changed⟩ := cb
      -- at this step's data line the last label carries this step's version
      have hcur : (if labCond freq c (flag || changed) then some (if changed then v + 1 else v) else cur) =
          some (if changed then v + 1 else v) := by
        cases hl : labCond freq c (flag || changed)
        · -- no label: the flag was down and nothing changed
          obtain ⟨rfl, rfl⟩ := Bool.or_eq_false_iff.1 (flag_of_not_labCond freq c _ hl)
          exact h.resolve_left Bool.false_ne_true
        · rfl
      rw [trajRunV, trajStep_fst, trajStep_snd_false, List.map_append, List.append_assoc, scan_label, hcur, scan_data]
      exact ih false _ _ (Or.inr rfl)
  exact scan_ok run true v none (Or.inl rfl)

/-- the tagged run is the plain run with tags -/
theorem trajRunV_erase (freq : Int) (flag : Bool) (v : Nat) (run : List (Clock × Bool)) :
    (trajRunV freq flag v run).map (·.1) = trajRun freq flag run := by
  induction run generalizing flag v with
  | nil => rfl
  | cons cb rest ih =>
    obtain ⟨c, changed⟩ := cb
    simp [trajRunV, trajRun, ih, List.map_map, Function.comp_def]

/-! ## running average and deviation are the textbook ones -/

/-- once started, the stored history is the last `length - 1` values seen, most recent first -/
theorem runave_window (length : Nat) (s : RunAve ℝ) (x : ℝ) (hs : s.started = true) :
    (runAveStep length none s x).1.hist = (x :: s.hist).take (length - 1) := by
  rw [runAveStep_started length none s x hs]

/-- with a full window the written average is the arithmetic mean of the current value and the `length - 1` previous ones,
    and the written deviation is the sample standard deviation of those same `length` values -/
theorem runave_textbook (length : Nat) (hl : 2 ≤ length) (s : RunAve ℝ) (x : ℝ) (hs : s.started = true)
    (hh : s.hist.length = length - 1) :
    let w := x :: s.hist
    let mean := w.sum / (length : ℝ)
    (runAveStep length none s x).2 =
      some (mean, Real.sqrt ((w.map fun v => (v - mean) ^ 2).sum / ((length : ℝ) - 1))) := by
  intro w mean
  rw [runAveStep_full length hl none s x hs hh]
  simp only [dist2S_none, ← pow_two]
  rfl

/-- no line is written before the window is full -/
theorem runave_silent_until_full (length : Nat) (s : RunAve ℝ) (x : ℝ) (hs : s.started = true)
    (hh : s.hist.length + 1 < length) : (runAveStep length none s x).2 = none := by
  rw [runAveStep_started length none s x hs, if_neg (by omega)]

/-! ## time-correlation functions (`CvModel/Acf.lean`) -/

section ACF
open Cv.Acf

/-- the time origins for which a complete row of lags exists after `n` analysis steps (steps are numbered from 1; step 0
    of the run only allocates): `t - (offset + length) * stride ≥ 1` -/
def origins (p : Params) (n : Nat) : List Nat :=
  (List.range (n + 1)).filter fun t => decide ((p.offset + p.length) * p.stride + 1 ≤ t)

private theorem step_started (p : Params) (s : State ℝ) (own other : List ℝ) (hst : s.started = true) :
    step p s own other =
      { started := true
        hist := s.hist.set s.cur ((own :: s.hist.getD s.cur []).take (p.length + p.offset))
        cur := if s.cur + 1 ≥ p.stride then 0 else s.cur + 1
        acf := if (s.hist.getD s.cur []).length ≥ p.length + p.offset then
            List.zipWith (· + ·) s.acf (lagZero p own other ::
              (((s.hist.getD s.cur []).drop p.offset).take p.length).map fun q => pairValue p q other)
          else s.acf
        nframes := if (s.hist.getD s.cur []).length ≥ p.length + p.offset then s.nframes + 1 else s.nframes } := by
  obtain ⟨st, hist, cur, acf, nf⟩ := s
  simp only at hst
  subst hst
  unfold step
  simp only [Bool.not_true, Bool.false_eq_true, if_false]
  split <;> rfl

private theorem run_succ (p : Params) (own other : Nat → List ℝ) (n : Nat) :
    run p ((List.range (n + 1)).map fun i => (own (i + 1), other (i + 1))) =
      step p (run p ((List.range n).map fun i => (own (i + 1), other (i + 1)))) (own (n + 1)) (other (n + 1)) := by
  simp [run, List.range_succ, List.foldl_append]

private theorem origins_succ (p : Params) (n : Nat) :
    origins p (n + 1) = origins p n ++ (if (p.offset + p.length) * p.stride + 1 ≤ n + 1 then [n + 1] else []) := by
  unfold origins
  rw [List.range_succ (n := n + 1), List.filter_append, List.filter_singleton, Bool.cond_decide]

/-- the state after `n` analysis steps (`own t`, `other t`: the two variables at step `t ≥ 1`): a ring buffer of `stride`
    history lists, `cur` the slot in turn, and in the accumulators the sums that `acf_textbook` states -/
private structure Inv (p : Params) (own other : Nat → List ℝ) (n : Nat) (s : State ℝ) : Prop where
  started : s.started = true
  hlen : s.hist.length = p.stride
  cur : s.cur = n % p.stride
  alen : s.acf.length = p.length + 1
  -- slot `m % stride` is the one step `m + 1` reads and pushes onto; for the next `stride` steps it already holds what
  -- that step finds: steps `m + 1 - stride, m + 1 - 2·stride, …`, most recent first, at most the window
  hist : ∀ m, n ≤ m → m < n + p.stride →
    s.hist.getD (m % p.stride) [] =
      (List.range (min (m / p.stride) (p.length + p.offset))).map fun i => own (m + 1 - (i + 1) * p.stride)
  nfr : s.nframes = (origins p n).length
  acf0 : s.acf.getD 0 0 = ((origins p n).map fun t => lagZero p (own t) (other t)).sum
  acfj : ∀ j, 1 ≤ j → j ≤ p.length →
    s.acf.getD j 0 = ((origins p n).map fun t => pairValue p (own (t - (p.offset + j) * p.stride)) (other t)).sum

private theorem inv_init (p : Params) (own other : Nat → List ℝ) :
    Inv p own other 0 (init p) where
  started := rfl
  hlen := List.length_replicate
  cur := (Nat.zero_mod _).symm
  alen := List.length_replicate
  hist m _ hm := by
    rw [Nat.div_eq_of_lt (by omega), Nat.zero_min, List.range_zero, List.map_nil]
    exact getD_replicate_self ..
  nfr := rfl
  acf0 := lit_zero
  acfj j _ _ := by
    show (List.replicate (p.length + 1) (0.0 : ℝ)).getD j 0 = 0
    rw [lit_zero]
    exact getD_replicate_self ..

private theorem mod_succ_turn (n k : Nat) (hk : 0 < k) :
    (if n % k + 1 ≥ k then 0 else n % k + 1) = (n + 1) % k := by
  have hlt := Nat.mod_lt n hk
  rw [← Nat.mod_add_mod n k 1]
  split
  · have : n % k + 1 = k := by omega
    rw [this, Nat.mod_self]
  · rw [Nat.mod_eq_of_lt (a := n % k + 1) (by omega)]

private theorem same_turn (n m k : Nat) (h1 : n + 1 ≤ m) (h2 : m < n + 1 + k)
    (h : m % k = n % k) : m = n + k := by
  have := Nat.le_of_dvd (by omega) ((Nat.modEq_iff_dvd' (by omega)).mp h.symm)
  omega

private theorem inv_step (p : Params) (hs : 0 < p.stride) (own other : Nat → List ℝ) (n : Nat) (s : State ℝ)
    (h : Inv p own other n s) : Inv p own other (n + 1) (step p s (own (n + 1)) (other (n + 1))) := by
  have hl : s.hist.getD s.cur [] =
      (List.range (min (n / p.stride) (p.length + p.offset))).map fun i => own (n + 1 - (i + 1) * p.stride) := by
    rw [h.cur]; exact h.hist n (le_refl _) (by omega)
  have hguard : ((s.hist.getD s.cur []).length ≥ p.length + p.offset) ↔
      (p.offset + p.length) * p.stride + 1 ≤ n + 1 := by
    rw [hl, List.length_map, List.length_range, ge_iff_le, le_min_iff, Nat.le_div_iff_mul_le hs, add_comm p.offset]
    omega
  -- the row added: the lag-0 term, then the products with the values `offset + j` strides back
  have hrow : (p.offset + p.length) * p.stride + 1 ≤ n + 1 →
      (((s.hist.getD s.cur []).drop p.offset).take p.length).map (fun q => pairValue p q (other (n + 1))) =
        (List.range p.length).map fun i => pairValue p (own (n + 1 - (p.offset + (i + 1)) * p.stride)) (other (n + 1)) := by
    intro hg
    have hK : p.length + p.offset ≤ n / p.stride := by
      rw [Nat.le_div_iff_mul_le hs, add_comm p.length]; omega
    rw [hl, Nat.min_eq_right hK, take_drop_map_range _ (by omega), List.map_map]
    rfl
  have hrowlen : (p.offset + p.length) * p.stride + 1 ≤ n + 1 →
      s.acf.length = (lagZero p (own (n + 1)) (other (n + 1)) ::
        (((s.hist.getD s.cur []).drop p.offset).take p.length).map fun q => pairValue p q (other (n + 1))).length := by
    intro hg
    rw [hrow hg, h.alen, List.length_cons, List.length_map, List.length_range]
  rw [step_started p s _ _ h.started]
  simp only [hguard]
  refine ⟨rfl, (List.length_set ..).trans h.hlen, ?_, ?_, ?_, ?_, ?_, ?_⟩
  · dsimp only
    rw [h.cur, mod_succ_turn n p.stride hs]
  · dsimp only
    split
    · rename_i hg
      rw [List.length_zipWith, ← hrowlen hg, min_self, h.alen]
    · exact h.alen
  · intro m hm1 hm2
    have hlt : s.cur < s.hist.length := by rw [h.cur, h.hlen]; exact Nat.mod_lt _ hs
    dsimp only
    rw [List.getD_eq_getElem?_getD]
    -- only the slot just written changed, that of `m = n + stride` (`same_turn`): `own (n + 1)` in front, cut to the window
    by_cases hc : m % p.stride = n % p.stride
    · obtain rfl : m = n + p.stride := same_turn n m p.stride hm1 hm2 hc
      rw [hc, ← h.cur, List.getElem?_set_self hlt, Option.getD_some, Nat.add_div_right n hs, hl]
      refine cons_take_range _ _ _ _ _ (congrArg own (by omega)) fun i => congrArg own ?_
      rw [Nat.add_mul (i + 1) 1, Nat.one_mul]
      omega
    · rw [List.getElem?_set_ne (by rw [h.cur]; exact Ne.symm hc), ← List.getD_eq_getElem?_getD]
      refine h.hist m (by omega) (Nat.lt_of_le_of_ne (by omega) fun e => hc ?_)
      rw [e, Nat.add_mod_right]
  · dsimp only
    rw [origins_succ, List.length_append, h.nfr]
    split <;> rfl
  · dsimp only
    rw [origins_succ, List.map_append, List.sum_append, ← h.acf0]
    split
    · rename_i hg
      rw [getD_zipWith_add _ _ (hrowlen hg)]
      simp only [List.map_cons, List.map_nil, List.sum_cons, List.sum_nil, add_zero, List.getD_cons_zero]
    · simp only [List.map_nil, List.sum_nil, add_zero]
  · intro j hj1 hj2
    obtain ⟨j, rfl⟩ : ∃ j', j = j' + 1 := ⟨j - 1, by omega⟩
    dsimp only
    rw [origins_succ, List.map_append, List.sum_append, ← h.acfj _ hj1 hj2]
    split
    · rename_i hg
      rw [getD_zipWith_add _ _ (hrowlen hg),
        hrow hg, List.getD_cons_succ]
      simp only [List.getD_eq_getElem?_getD, List.getElem?_map, List.getElem?_range hj2, List.map_cons, List.map_nil,
        List.sum_cons, List.sum_nil, add_zero, Option.map_some, Option.getD_some]
    · simp only [List.map_nil, List.sum_nil, add_zero]

private theorem inv_run (p : Params) (hs : 0 < p.stride) (own other : Nat → List ℝ) (n : Nat) :
    Inv p own other n (run p ((List.range n).map fun i => (own (i + 1), other (i + 1)))) := by
  induction n with
  | zero => exact inv_init p own other
  | succ n ih => rw [run_succ]; exact inv_step p hs own other n _ ih

/-- **textbook definition**: after any number of analysis steps, with `own t` / `other t` the values the two variables took
    at step `t`, the number of accumulated rows is the number of available time origins, row 0 holds the sum of the lag-0
    terms, and row `j` holds the sum over the origins of `Π(ξ_i(t - (offset + j)·stride), ξ_j(t))` -/
theorem acf_textbook (p : Params) (hs : 0 < p.stride) (own other : Nat → List ℝ) (n : Nat) :
    let s := run p ((List.range n).map fun i => (own (i + 1), other (i + 1)))
    s.nframes = (origins p n).length ∧
    s.acf.getD 0 0 = ((origins p n).map fun t => lagZero p (own t) (other t)).sum ∧
    ∀ j, 1 ≤ j → j ≤ p.length →
      s.acf.getD j 0 = ((origins p n).map fun t => pairValue p (own (t - (p.offset + j) * p.stride)) (other t)).sum := by
  intro s
  have h := inv_run p hs own other n
  exact ⟨h.nfr, h.acf0, h.acfj⟩

/-- what is written: each row is the accumulated sum divided by the number of rows accumulated, labelled with
    `stride * (offset + j)`; nothing is written before the first complete row -/
theorem acf_rows_average (p : Params) (s : State ℝ) (hn : p.normalize = false) (h0 : 0 < s.nframes) (j : Nat)
    (hj : j < s.acf.length) :
    (rows p s)[j]? = some (p.stride * (p.offset + j), s.acf.getD j 0 / (s.nframes : ℝ)) := by
  rw [rows, if_neg (by omega), hn, List.getElem?_map, List.getElem?_zipIdx, List.getElem?_eq_getElem hj, Nat.zero_add,
    getD_of_lt _ _ _ hj]
  rfl

theorem acf_rows_empty (p : Params) (s : State ℝ) (h0 : s.nframes = 0) : rows p s = [] := by
  simp [rows, h0]

/-- normalised output: every row divided by row 0, so that the first row is 1 -/
theorem acf_rows_normalised (p : Params) (s : State ℝ) (hn : p.normalize = true) (h0 : 0 < s.nframes) (j : Nat)
    (hj : j < s.acf.length) (hz : s.acf.headD 0 ≠ 0) :
    (rows p s)[j]? = some (p.stride * (p.offset + j), s.acf.getD j 0 / s.acf.headD 0) := by
  have _ := hz  -- not needed: both sides are 0 when the first row is
  have h0' : s.nframes ≠ 0 := by omega
  have hc : (s.nframes : ℝ) ≠ 0 := by exact_mod_cast h0'
  simp only [rows, h0', hn, if_true, if_false, lit_zero, List.getElem?_map, List.getElem?_zipIdx,
    List.getElem?_eq_getElem hj, Option.map_some, zero_add, List.getD_eq_getElem?_getD, Option.getD_some,
    div_mul_cancel₀ _ hc]

/-- not vacuous: length 1, stride 2, offset 0, five steps: origins 3, 4, 5; row 1 pairs each with the value two steps
    earlier -/
example : origins { kind := .coor, vtype := .scalar, length := 1, stride := 2, offset := 0, normalize := false } 5 = [3, 4, 5] := by
  decide

end ACF

/-! ## non-vacuity -/

example : (cvLabels { value := true, velocity := true, extended := true }).map (·.1) = ["", "r_", "v_", "vr_"] := by
  rfl

end Cv.C19
