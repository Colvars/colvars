import CvProps.Base
import Mathlib.Analysis.SpecialFunctions.Trigonometric.InverseDeriv
/-!
# `CvModel/Value.lean` at `ℝ`: the shortest-image shift `pshift` by `Int.fract`, its derivative away from the cut,
vectors as lists, geodesic interpolation.  Namespace `Cv.C18` (C06 and C15 use them under these names).
-/
open Cv

namespace Cv.C18

/-! ## lists as vectors, by their `cons` equations -/

@[simp] theorem dot_nil_left (b : List ℝ) : dot ([] : List ℝ) b = 0 := by simp [dot]
@[simp] theorem dot_nil_right (a : List ℝ) : dot a ([] : List ℝ) = 0 := by simp [dot]
@[simp] theorem dot_cons (x y : ℝ) (a b : List ℝ) :
    dot (x :: a) (y :: b) = x * y + dot a b := by simp [dot]

theorem dot_eq_sum (a b : List ℝ) : dot a b = (List.zipWith (· * ·) a b).sum := sumL_eq_sum _

theorem dot_comm (a b : List ℝ) : dot a b = dot b a := by
  rw [dot_eq_sum, dot_eq_sum, List.zipWith_comm_of_comm mul_comm]

@[simp] theorem norm2_nil : norm2 ([] : List ℝ) = 0 := by simp [norm2]
@[simp] theorem norm2_cons (x : ℝ) (a : List ℝ) : norm2 (x :: a) = x * x + norm2 a := by
  simp [norm2]

theorem norm2_nonneg (a : List ℝ) : 0 ≤ norm2 a := by
  induction a with
  | nil => simp
  | cons x a ih => rw [norm2_cons]; exact add_nonneg (mul_self_nonneg x) ih

theorem norm2_eq_zero (a : List ℝ) : norm2 a = 0 ↔ ∀ x ∈ a, x = 0 := by
  induction a with
  | nil => simp
  | cons x a ih =>
    rw [norm2_cons, add_eq_zero_iff_of_nonneg (mul_self_nonneg x) (norm2_nonneg a), mul_self_eq_zero, ih,
      List.forall_mem_cons]

@[simp] theorem vsub_nil_left (b : List ℝ) : vsub ([] : List ℝ) b = [] := by simp [vsub]
@[simp] theorem vsub_nil_right (a : List ℝ) : vsub a ([] : List ℝ) = [] := by simp [vsub]
@[simp] theorem vsub_cons (x y : ℝ) (a b : List ℝ) :
    vsub (x :: a) (y :: b) = (x - y) :: vsub a b := by simp [vsub]
@[simp] theorem vadd_nil_left (b : List ℝ) : vadd ([] : List ℝ) b = [] := by simp [vadd]
@[simp] theorem vadd_nil_right (a : List ℝ) : vadd a ([] : List ℝ) = [] := by simp [vadd]
@[simp] theorem vadd_cons (x y : ℝ) (a b : List ℝ) :
    vadd (x :: a) (y :: b) = (x + y) :: vadd a b := by simp [vadd]
@[simp] theorem vscale_nil (c : ℝ) : vscale c ([] : List ℝ) = [] := by simp [vscale]
@[simp] theorem vscale_cons (c x : ℝ) (a : List ℝ) :
    vscale c (x :: a) = (c * x) :: vscale c a := by simp [vscale]

/-! ## the periodic shift as a re-centred fractional part -/

theorem pshift_eq (p d : ℝ) : pshift p d = d - (⌊d / p + 1 / 2⌋ : ℝ) * p := by
  unfold pshift
  rw [floorS_real, lit_half]

theorem pshift_fract (p d : ℝ) (hp : p ≠ 0) : pshift p d = Int.fract (d / p + 1 / 2) * p - p / 2 := by
  rw [pshift_eq, Int.fract, sub_mul, add_mul, div_mul_cancel₀ _ hp, one_div_mul_eq_div]; ring

theorem pshift_range (p d : ℝ) (hp : 0 < p) : -(p / 2) ≤ pshift p d ∧ pshift p d < p / 2 := by
  rw [pshift_fract p d hp.ne']
  exact ⟨le_sub_iff_add_le.2 (by rw [neg_add_cancel]; exact mul_nonneg (Int.fract_nonneg _) hp.le),
    sub_lt_iff_lt_add.2 (by rw [add_halves]; exact mul_lt_of_lt_one_left hp (Int.fract_lt_one _))⟩

theorem pshift_add_int (p d : ℝ) (hp : 0 < p) (k : ℤ) : pshift p (d + k * p) = pshift p d := by
  rw [pshift_fract _ _ hp.ne', pshift_fract _ _ hp.ne', add_div, mul_div_cancel_right₀ _ hp.ne', add_right_comm,
    Int.fract_add_intCast]

theorem pshift_of_mem (p d : ℝ) (hp : 0 < p) (h1 : -(p / 2) ≤ d) (h2 : d < p / 2) : pshift p d = d := by
  have e : d / p + 1 / 2 = (d + p / 2) / p := by rw [add_div, div_div_cancel_left' hp.ne', one_div]
  have l : 0 ≤ (d + p / 2) / p := div_nonneg (neg_le_iff_add_nonneg.1 h1) hp.le
  have u : (d + p / 2) / p < 1 := (div_lt_one hp).2 (by rw [← lt_sub_iff_add_lt, sub_half]; exact h2)
  rw [pshift_fract p d hp.ne', e, Int.fract_eq_self.2 ⟨l, u⟩, div_mul_cancel₀ _ hp.ne', add_sub_cancel_right]

/-- squares: at the tie (half a period) both sides are `-p/2` -/
theorem pshift_neg_sq (p d : ℝ) (hp : 0 < p) :
    pshift p (-d) * pshift p (-d) = pshift p d * pshift p d := by
  have e : -d / p + 1 / 2 = -(d / p + 1 / 2) + (1 : ℤ) := by push_cast; ring
  rw [pshift_fract _ _ hp.ne', pshift_fract _ _ hp.ne', e, Int.fract_add_intCast]
  by_cases h : Int.fract (d / p + 1 / 2) = 0
  · rw [Int.fract_neg_eq_zero.2 h, h]
  · rw [Int.fract_neg h]; ring

theorem pshift_zero_iff (p d : ℝ) (hp : 0 < p) : pshift p d = 0 ↔ ∃ n : ℤ, d = n * p := by
  constructor
  · intro h
    exact ⟨⌊d / p + 1 / 2⌋, by rw [pshift_eq, sub_eq_zero] at h; exact h⟩
  · rintro ⟨n, rfl⟩
    have := pshift_add_int p 0 hp n
    rw [zero_add] at this
    rw [this, pshift_of_mem p 0 hp (by linarith) (by linarith)]

theorem dist2S_none (a b : ℝ) : dist2S none a b = (a - b) * (a - b) := rfl
theorem dist2S_some (p a b : ℝ) : dist2S (some p) a b = pshift p (a - b) * pshift p (a - b) := rfl

theorem wrapS_eq (p c x : ℝ) : wrapS p c x = c + pshift p (x - c) := by
  unfold wrapS pshift; ring

/-! ## the derivative of the shortest-image difference -/

theorem floor_eventually_const (f : ℝ → ℝ) (x : ℝ) (hf : ContinuousAt f x)
    (hcut : ∀ n : ℤ, f x ≠ n) : ∀ᶠ y in nhds x, ⌊f y⌋ = ⌊f x⌋ := by
  have h1 : (⌊f x⌋ : ℝ) < f x := lt_of_le_of_ne (Int.floor_le _) (Ne.symm (hcut _))
  have h2 : f x < (⌊f x⌋ : ℝ) + 1 := Int.lt_floor_add_one _
  have e1 := hf.eventually (lt_mem_nhds h1)
  have e2 := hf.eventually (gt_mem_nhds h2)
  filter_upwards [e1, e2] with y hy1 hy2
  rw [Int.floor_eq_iff]
  exact ⟨le_of_lt hy1, hy2⟩

theorem hasDerivAt_pdiff (per : Option ℝ) (x1 x2 : ℝ)
    (hcut : ∀ p, per = some p → ∀ n : ℤ, (x1 - x2) / p + 0.5 ≠ n) :
    HasDerivAt (fun x => pdiff per x x2) 1 x1 := by
  cases per with
  | none => exact (hasDerivAt_id x1).sub_const x2
  | some p =>
    have hev := floor_eventually_const (fun x : ℝ => (x - x2) / p + 1 / 2) x1 (by fun_prop)
      (by simpa only [lit_half] using hcut p rfl)
    have hd : HasDerivAt (fun x : ℝ => x - x2 - (⌊(x1 - x2) / p + 1 / 2⌋ : ℝ) * p) 1 x1 :=
      ((hasDerivAt_id x1).sub_const x2).sub_const _
    refine hd.congr_of_eventuallyEq ?_
    filter_upwards [hev] with y hy
    show pshift p (y - x2) = _
    rw [pshift_eq, hy]

theorem hasDerivAt_dist2S (per : Option ℝ) (x1 x2 : ℝ)
    (hcut : ∀ p, per = some p → ∀ n : ℤ, (x1 - x2) / p + 0.5 ≠ n) :
    HasDerivAt (fun x => dist2S per x x2) (dist2SGrad per x1 x2) x1 := by
  have h := hasDerivAt_pdiff per x1 x2 hcut
  refine (h.mul h).congr_deriv ?_
  unfold dist2SGrad
  rw [lit_two]; ring

/- the non-periodic gradient as the wall restraint reads it -/
theorem dist2SGrad_none (x w : ℝ) : dist2SGrad none x w = 2 * (x - w) := by
  rw [dist2SGrad, pdiff, lit_two]

theorem half_dist2SGrad_none (x w : ℝ) : 0.5 * dist2SGrad none x w = x - w := by
  rw [dist2SGrad_none, lit_half]; ring

theorem dist2SGrad_none_neg (x w : ℝ) : dist2SGrad none x w < 0 ↔ x < w := by
  rw [dist2SGrad_none]; constructor <;> intro h <;> linarith

theorem dist2SGrad_none_pos (x w : ℝ) : dist2SGrad none x w > 0 ↔ w < x := by
  rw [dist2SGrad_none]; constructor <;> intro h <;> linarith

/-! ## the vector distance; `dot` is linear -/

theorem dist2V_eq_zero (a b : List ℝ) (h : a.length = b.length) : dist2V a b = 0 ↔ a = b := by
  rw [dist2V, norm2_eq_zero]
  induction a generalizing b with
  | nil =>
    cases b with
    | nil => simp
    | cons y b => simp at h
  | cons x a ih =>
    cases b with
    | nil => simp at h
    | cons y b => rw [vsub_cons, List.forall_mem_cons, sub_eq_zero, ih b (by simpa using h), List.cons.injEq]

theorem dot_vscale_left (k : ℝ) (a b : List ℝ) : dot (vscale k a) b = k * dot a b := by
  induction a generalizing b with
  | nil => simp
  | cons x a ih =>
    cases b with
    | nil => simp
    | cons y b => simp [ih b]; ring

theorem dot_vadd_vscale (a v b : List ℝ) (h : v.length = a.length) (t : ℝ) :
    dot (vadd a (vscale t v)) b = dot a b + t * dot v b := by
  induction a generalizing v b with
  | nil =>
    cases v with
    | nil => simp
    | cons w v => simp at h
  | cons x a ih =>
    match v, h with
    | w :: v, h =>
      cases b with
      | nil => simp
      | cons y b =>
        simp [ih v b (by simpa using h)]; ring

/-! ## the opposite vector -/

/-- `-q`: as a quaternion, the same rotation as `q` -/
def vneg (a : List ℝ) : List ℝ := a.map (fun x => -x)

@[simp] theorem vneg_nil : vneg [] = [] := rfl
@[simp] theorem vneg_cons (x : ℝ) (a : List ℝ) : vneg (x :: a) = -x :: vneg a := rfl
@[simp] theorem vneg_length (a : List ℝ) : (vneg a).length = a.length := List.length_map _
@[simp] theorem vneg_vneg (a : List ℝ) : vneg (vneg a) = a := by simp [vneg]

theorem vneg_eq_vscale (a : List ℝ) : vneg a = vscale (-1) a := by
  simp only [vneg, vscale, neg_one_mul]

theorem dot_vneg_left (a b : List ℝ) : dot (vneg a) b = - dot a b := by
  rw [vneg_eq_vscale, dot_vscale_left, neg_one_mul]

theorem dot_vneg_right (a b : List ℝ) : dot a (vneg b) = - dot a b := by
  rw [dot_comm, dot_vneg_left, dot_comm]

theorem norm2_vneg (b : List ℝ) : norm2 (vneg b) = norm2 b := by
  unfold norm2; rw [dot_vneg_left, dot_vneg_right]; ring

/-! ## Cauchy–Schwarz for unit vectors, through `‖a - b‖²` -/

theorem dist2V_expand (a b : List ℝ) (h : a.length = b.length) :
    dist2V a b = norm2 a + norm2 b - 2 * dot a b := by
  induction a generalizing b with
  | nil =>
    cases b with
    | nil => simp [dist2V]
    | cons y b => simp at h
  | cons x a ih =>
    cases b with
    | nil => simp at h
    | cons y b =>
      have ih' := ih b (by simpa using h)
      simp only [dist2V, vsub_cons, norm2_cons, dot_cons] at ih' ⊢
      rw [ih']; ring

theorem dot_le_one (a b : List ℝ) (h : a.length = b.length) (na : norm2 a = 1) (nb : norm2 b = 1) : dot a b ≤ 1 := by
  have h1 := dist2V_expand a b h
  have h2 : 0 ≤ dist2V a b := norm2_nonneg _
  rw [na, nb] at h1
  linarith

/-- the equality case -/
theorem one_le_dot_iff (a b : List ℝ) (h : a.length = b.length) (na : norm2 a = 1)
    (nb : norm2 b = 1) : 1 ≤ dot a b ↔ a = b := by
  have h1 := dist2V_expand a b h
  have h2 : 0 ≤ dist2V a b := norm2_nonneg _
  rw [na, nb] at h1
  constructor
  · intro hc
    exact (dist2V_eq_zero a b h).1 (by linarith)
  · rintro rfl
    exact le_of_eq na.symm

theorem dot_le_neg_one_iff (a b : List ℝ) (h : a.length = b.length) (na : norm2 a = 1)
    (nb : norm2 b = 1) : dot a b ≤ -1 ↔ a = vneg b := by
  rw [← one_le_dot_iff a (vneg b) (by simpa using h) na (by rw [norm2_vneg, nb]), dot_vneg_right, le_neg]

/-! ## the clamp under `Real.arccos`; the unit-vector distance -/

theorem clampCos_eq (c : ℝ) : clampCos c = max (-1) (min c 1) := by
  unfold clampCos
  rw [lit_one]
  by_cases h1 : c > 1
  · rw [if_pos h1, min_eq_right (le_of_lt h1)]; norm_num
  · rw [if_neg h1]
    have h1' : c ≤ 1 := not_lt.1 h1
    rw [min_eq_left h1']
    by_cases h2 : c < -1
    · rw [if_pos h2, max_eq_left (le_of_lt h2)]
    · rw [if_neg h2, max_eq_right (not_lt.1 h2)]

/-- `Real.arccos` already projects to `[-1, 1]`: the clamp is invisible at `ℝ` -/
theorem arccos_clampCos (c : ℝ) : Real.arccos (clampCos c) = Real.arccos c := by
  rw [clampCos_eq]
  rcases le_total c (-1) with h | h
  · rw [max_eq_left (le_trans (min_le_left _ _) h), Real.arccos_of_le_neg_one h,
      Real.arccos_neg_one]
  · rcases le_total c 1 with h1 | h1
    · rw [min_eq_left h1, max_eq_right h]
    · rw [min_eq_right h1, max_eq_right (by norm_num), Real.arccos_one,
        Real.arccos_eq_zero.2 h1]

theorem dist2U_eq (a b : List ℝ) :
    dist2U a b = Real.arccos (dot a b) * Real.arccos (dot a b) := by
  unfold dist2U
  rw [sq_real, prim_acos, arccos_clampCos]

theorem dist2UGrad_of_guard (a b : List ℝ) (h : 1 ≤ dot a b * dot a b) :
    dist2UGrad a b = [0.0, 0.0, 0.0] := by
  unfold dist2UGrad
  simp only []
  rw [if_pos (by norm_num; linarith)]

theorem dist2UGrad_of_lt (a b : List ℝ) (h : dot a b * dot a b < 1) :
    dist2UGrad a b =
      vscale (2 * Real.arccos (dot a b) * (-1) / √(1 - dot a b * dot a b)) b := by
  unfold dist2UGrad
  simp only [prim_acos, prim_sqrt, lit]
  rw [if_neg (not_le.2 (sub_pos.2 h))]

theorem hasDerivAt_arccos_sq_line (c d : ℝ) (h1 : -1 < c) (h2 : c < 1) :
    HasDerivAt (fun t : ℝ => Real.arccos (c + t * d) * Real.arccos (c + t * d))
      (2 * Real.arccos c * (-1) / √(1 - c * c) * d) 0 := by
  have hlin : HasDerivAt (fun t : ℝ => c + t * d) d 0 := by
    simpa using ((hasDerivAt_id (0:ℝ)).mul_const d).const_add c
  have hacos : HasDerivAt Real.arccos (-(1 / √(1 - c ^ 2))) (c + 0 * d) := by
    rw [zero_mul, add_zero]; exact Real.hasDerivAt_arccos h1.ne' h2.ne
  have h : HasDerivAt (fun t : ℝ => Real.arccos (c + t * d)) (-(1 / √(1 - c ^ 2)) * d) 0 :=
    HasDerivAt.comp (h₂ := Real.arccos) (h := fun t : ℝ => c + t * d) 0 hacos hlin
  refine (h.mul h).congr_deriv ?_
  simp only [zero_mul, add_zero, pow_two]
  ring

/-! ## the quaternion distance -/

/-- the unit-vector distance of `|a·b|`: `q` and `-q` are one rotation -/
theorem dist2Q_eq (a b : List ℝ) :
    dist2Q Real.pi a b = Real.arccos |dot a b| * Real.arccos |dot a b| := by
  unfold dist2Q
  simp only [prim_acos, arccos_clampCos, lit_zero]
  split_ifs with h
  · rw [abs_of_pos h]
  · rw [abs_of_nonpos (not_lt.1 h), Real.arccos_neg]

/-! ## linear interpolation and normalisation -/

theorem lerpV_eq (a b : List ℝ) (l : ℝ) : lerpV a b l = List.zipWith (fun x y => (1 - l) * x + l * y) a b := by
  simp only [lerpV, vadd, vscale, List.zipWith_map, lit_one]

theorem lerpV_zero (a b : List ℝ) (h : a.length = b.length) : lerpV a b 0.0 = a := by
  rw [lerpV_eq]
  exact zipWith_neutral _ _ _ (fun x y _ => by norm_num) h.le

theorem lerpV_one (a b : List ℝ) (h : a.length = b.length) : lerpV a b 1.0 = b := by
  rw [lerpV_eq, List.zipWith_comm]
  exact zipWith_neutral _ _ _ (fun x y _ => by norm_num) h.ge

theorem lerpV_self (a : List ℝ) (l : ℝ) : lerpV a a l = a := by
  rw [lerpV_eq, List.zipWith_self]
  exact (List.map_congr_left fun x _ => by ring).trans (List.map_id' a)

theorem norm2_map_div (a : List ℝ) (n : ℝ) : norm2 (a.map (· / n)) = norm2 a / (n * n) := by
  induction a with
  | nil => simp
  | cons x a ih => rw [List.map_cons, norm2_cons, norm2_cons, ih, div_mul_div_comm, add_div]

theorem normalize_of_unit (a : List ℝ) (na : norm2 a = 1) : normalize a = a := by
  unfold normalize
  simp [na]

theorem norm2_normalize (a : List ℝ) (h : 0 < norm2 a) : norm2 (normalize a) = 1 := by
  unfold normalize
  simp only [prim_sqrt]
  rw [norm2_map_div, Real.mul_self_sqrt (le_of_lt h)]
  exact div_self (ne_of_gt h)

/-! ## quaternion interpolation: sign matching, the branch taken -/

theorem matchSign_eq (a b : List ℝ) :
    matchSign a b = if dot a b < 0 then vneg b else b := by
  unfold matchSign vneg
  have e1 : (fun x : ℝ => -1.0 * x) = (fun x => -x) := by funext x; norm_num
  rw [lit_zero, e1]

theorem matchSign_length (a b : List ℝ) : (matchSign a b).length = b.length := by
  rw [matchSign_eq]; split_ifs <;> simp

theorem matchSign_norm2 (a b : List ℝ) : norm2 (matchSign a b) = norm2 b := by
  rw [matchSign_eq]; split_ifs
  · exact norm2_vneg b
  · rfl

theorem interpManifold_zero (a b : List ℝ) (l : ℝ) :
    interpManifold 0 a b l = some (normalize (lerpV a b l)) := by
  unfold interpManifold
  simp only [prim_sqrt]
  rw [if_pos (by rw [Real.sqrt_zero]; norm_num)]

/-- the quotient is far above the `1e-6` threshold -/
theorem interpManifold_unit (d2 : ℝ) (a b : List ℝ) (l : ℝ) (hd : 0 < d2)
    (hle : d2 ≤ (Real.pi / 2) * (Real.pi / 2)) (hn : norm2 (lerpV a b l) = 1) :
    interpManifold d2 a b l = some (normalize (lerpV a b l)) := by
  unfold interpManifold
  simp only [prim_sqrt]
  have hs : 0 < √d2 := Real.sqrt_pos.2 hd
  rw [if_neg (by rw [lit_zero]; exact not_le.2 hs)]
  have hs2 : √d2 ≤ 2 := by
    have h1 : √d2 ≤ √((Real.pi / 2) * (Real.pi / 2)) := Real.sqrt_le_sqrt hle
    rw [Real.sqrt_mul_self (by positivity)] at h1
    have := Real.pi_le_four
    linarith
  rw [if_neg]
  rw [hn, Real.sqrt_one, not_lt, le_div_iff₀ hs]
  norm_num
  linarith

end Cv.C18
