import CvProps.GeomLemmas
/-! Helper lemmas for C07 (namespace `Cv.C07`): the sum by which `gyrationTF` projects atomic forces on the centred positions. -/
open Cv Cv.Geom

namespace Cv.C07

/-- `C` the centred positions, `kG` the factor of `gyrationGrad`, `kT` that of `gyrationTF` -/
theorem sum_zip_self (C : List (V3 ℝ)) (kT f kG : ℝ) :
    (List.zipWith (fun p fi => kT * V3.dot p fi) C ((C.map (V3.smul kG)).map (V3.smul f))).sum
      = kT * f * kG * (C.map V3.norm2).sum := by
  induction C with
  | nil => simp
  | cons p C ih =>
    simp only [List.map_cons, List.zipWith_cons_cons, List.sum_cons, ih, V3.dot_smul_right, V3.norm2]
    ring

theorem sum_zip_linear (F : ℝ) (C a b : List (V3 ℝ)) (k : ℝ) (h : a.length = b.length) :
    (List.zipWith (fun p fi => F * V3.dot p fi) C (List.zipWith V3.add a (b.map (V3.smul k)))).sum
      = (List.zipWith (fun p fi => F * V3.dot p fi) C a).sum
        + k * (List.zipWith (fun p fi => F * V3.dot p fi) C b).sum := by
  induction C generalizing a b with
  | nil => simp
  | cons p C ih =>
    cases a with
    | nil =>
      cases b with
      | nil => simp
      | cons _ _ => simp at h
    | cons x a =>
      cases b with
      | nil => simp at h
      | cons y b =>
        simp only [List.length_cons, add_left_inj] at h
        simp only [List.map_cons, List.zipWith_cons_cons, List.sum_cons, ih a b h, V3.dot_add_right,
          V3.dot_smul_right]
        ring

end Cv.C07
