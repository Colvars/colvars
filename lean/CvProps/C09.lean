import CvModel.Parse
import CvProps.C09Lemmas
/-!
# C09 — the parser core is total, case-insensitive in keywords, and only finds isolated keywords outside blocks

Property theorems about `CvModel/Parse.lean` (core Lean; strings are lists of characters).
-/
open Cv Cv.Parse

namespace Cv.C09

/-! ## letter case of keywords is free -/

theorem lower_idem (s : Str) : lower (lower s) = lower s := by
  unfold lower
  rw [List.map_map]
  exact List.map_congr_left fun c _ => lowerC_idem c

theorem lower_length (s : Str) : (lower s).length = s.length :=
  List.length_map _

/-- the keyword may be written in any letter case in the query -/
theorem key_case_free (conf k1 k2 : Str) (start : Nat) (h : lower k1 = lower k2) :
    keyLookup conf k1 start = keyLookup conf k2 start := by
  unfold keyLookup
  rw [h]

/-! ## totality -/

/-- every string has an outcome: found, not found, or the parse error of an unterminated brace -/
theorem lookup_total (conf key : Str) (start : Nat) (hk : key ≠ []) :
    keyLookup conf key start = .notFound ∨ keyLookup conf key start = .parseError ∨
    ∃ p d s, keyLookup conf key start = .found p d s := by
  have hs := searchKey_fuel conf key start hk
  unfold keyLookup
  dsimp only
  split
  · next h => exact absurd h hs
  · exact .inl rfl
  · rcases extractData_cases conf (lower key) _ (conf.length + 2) with he | ⟨d, s, he⟩
    · exact .inr (.inl he)
    · exact .inr (.inr ⟨_, d, s, he⟩)

/-- the search loop of `key_lookup` terminates: the fuel `|conf| + 2` is never exhausted (for a non-empty keyword) -/
theorem lookup_terminates (conf key : Str) (start : Nat) (hk : key ≠ []) :
    keyLookup conf key start ≠ .outOfFuel := by
  rcases lookup_total conf key start hk with h | h | ⟨p, d, s, h⟩ <;> rw [h] <;> nofun

/-! ## what "found" means -/

/-- a keyword is only found where it occurs (case-insensitively), is not inside an unbalanced brace context
    (i.e. not within a sub-block), and is isolated -/
theorem found_is_isolated_occurrence (conf key : Str) (p : Nat) (d : Str) (s : Nat)
    (h : keyLookup conf key 0 = .found p d s) :
    ((lower conf).drop p).take key.length = lower key ∧ checkBraces conf p = true ∧
    isolated conf (lower conf) (lower key) p = true := by
  obtain ⟨hi, _, ho⟩ := keyLookup_found h
  rw [lower_length] at ho
  exact ⟨ho, isolated_checkBraces hi, hi⟩

/-- the text before the keyword on its line consists of delimiters only -/
theorem found_left_clean (conf key : Str) (p : Nat) (d : Str) (s : Nat) (hp : 0 < p)
    (h : keyLookup conf key 0 = .found p d s) :
    ∃ c, conf[p - 1]? = some c ∧ delimLeft.contains c = true := by
  obtain ⟨hi, ho, _⟩ := keyLookup_found h
  rw [lower_length conf] at ho
  exact isolated_left hp (by omega) hi

/-! ## braces and comments -/

/-- `check_braces` accepts exactly the suffixes with as many opening as closing braces -/
theorem check_braces_iff (conf : Str) (start : Nat) :
    checkBraces conf start = true ↔ countC '{' (conf.drop start) = countC '}' (conf.drop start) := by
  unfold checkBraces
  simp only [foldl_brace, beq_iff_eq, countC_eq_count]
  omega

/-- an unmatched opening brace at top level is rejected -/
theorem unmatched_open_rejected (a b : Str) (ha : checkBraces a 0 = true) (hb : checkBraces b 0 = true) :
    checkBraces (a ++ ['{'] ++ b) 0 = false := by
  simp only [check_braces_iff, List.drop_zero, countC_eq_count] at ha hb
  rw [Bool.eq_false_iff, Ne, check_braces_iff, List.drop_zero, countC_eq_count, countC_eq_count, List.count_append,
    List.count_append, List.count_append, List.count_append, List.count_singleton_self, List.count_singleton]
  simp only [show (('{' : Char) == '}') = false by decide, Bool.false_eq_true, if_false]
  omega

theorem strip_comment_no_hash (line : Str) : '#' ∉ stripComment line := fun h => by
  simpa using List.all_eq_true.mp (List.all_takeWhile (p := (· ≠ '#')) (l := line)) '#' h

theorem strip_comment_idem (line : Str) : stripComment (stripComment line) = stripComment line :=
  stripComment_of_no_hash _ (strip_comment_no_hash line)

/-- text after a `#` never reaches the parser, whatever it contains -/
theorem strip_comment_ignores_tail (a t1 t2 : Str) (ha : '#' ∉ a) :
    stripComment (a ++ '#' :: t1) = stripComment (a ++ '#' :: t2) := by
  rw [stripComment_append a _ ha, stripComment_append a _ ha, stripComment_hash, stripComment_hash]

/-! ## non-vacuity -/

example : keyLookup "width 0.5\nname d\n".toList "NAME".toList 0 = .found 10 "d".toList 16 := by
  decide

end Cv.C09
