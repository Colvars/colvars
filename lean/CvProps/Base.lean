import CvProps.RealInst
import Mathlib.Analysis.Calculus.Deriv.Add
/-! What every module over `ℝ` needs after unfolding a model definition: literals as numerals (simp set `lit`), left folds
as `List.sum`, facts about such sums, lists read by position (`getD`). -/
namespace Cv

/- Traps: `ring` on a goal that still contains `2.0` fails in the kernel (`IsNat.of_raw`); `simp only [lit]` rewrites bottom-up,
so a lemma whose left side mentions a literal must be used before it. -/
@[lit] theorem lit_zero : (0.0 : ℝ) = 0 := by norm_num
@[lit] theorem lit_one : (1.0 : ℝ) = 1 := by norm_num
@[lit] theorem lit_two : (2.0 : ℝ) = 2 := by norm_num
@[lit] theorem lit_half : (0.5 : ℝ) = 1 / 2 := by norm_num

theorem absS_real (x : ℝ) : absS x = |x| := by
  rw [absS, lit_zero]
  split_ifs with h
  · exact (abs_of_neg h).symm
  · exact (abs_of_nonneg (not_lt.1 h)).symm

theorem foldl_add_eq_sum (l : List ℝ) (a : ℝ) : l.foldl (· + ·) a = a + l.sum :=
  List.foldl_eq_apply_foldr

theorem foldl_add_map_eq_sum {β : Type} (f : β → ℝ) (l : List β) (a : ℝ) :
    l.foldl (fun s x => s + f x) a = a + (l.map f).sum := by
  rw [← foldl_add_eq_sum, List.foldl_map]

theorem foldl_add_zero {β : Type} (f : β → ℝ) (l : List β) :
    l.foldl (fun s a => s + f a) (0.0 : ℝ) = (l.map f).sum := by
  rw [foldl_add_map_eq_sum, lit_zero, zero_add]

theorem sumL_eq_sum (l : List ℝ) : sumL l = l.sum := by
  rw [sumL, foldl_add_eq_sum, lit_zero, zero_add]

@[simp] theorem sumL_nil : sumL ([] : List ℝ) = 0 := by simp [sumL_eq_sum]

@[simp] theorem sumL_cons (x : ℝ) (l : List ℝ) : sumL (x :: l) = x + sumL l := by
  simp [sumL_eq_sum]

theorem sum_map_modify {β : Type} (h : β → ℝ) (f : β → β) (l : List β) (k : Nat) (hk : k < l.length) :
    ((l.modify k f).map h).sum = (l.map h).sum - h l[k] + h (f l[k]) := by
  obtain ⟨l₁, a, l₂, rfl, rfl, e⟩ := List.exists_of_modify f hk
  simp only [e, List.map_append, List.map_cons, List.sum_append, List.sum_cons,
    List.getElem_append_right (Nat.le_refl _), Nat.sub_self, List.getElem_cons_zero]
  ring

theorem sum_map_sub_const {β : Type} (l : List β) (f : β → ℝ) (c : ℝ) :
    (l.map fun b => f b - c).sum = (l.map f).sum - l.length * c := by
  simp only [sub_eq_add_neg, List.sum_map_add, List.map_const', List.sum_replicate, nsmul_eq_mul, mul_neg]

theorem sum_sum_pos {β γ : Type} {l₁ : List β} {l₂ : List γ} (F : β → γ → ℝ) (h1 : l₁ ≠ []) (h2 : l₂ ≠ [])
    (hF : ∀ a ∈ l₁, ∀ b ∈ l₂, 0 < F a b) : 0 < (l₁.map fun a => (l₂.map fun b => F a b).sum).sum :=
  List.sum_pos _ (List.forall_mem_map.2 fun a ha =>
    List.sum_pos _ (List.forall_mem_map.2 (hF a ha)) (by rwa [Ne, List.map_eq_nil_iff])) (by rwa [Ne, List.map_eq_nil_iff])

theorem sum_sum_perm {β γ : Type} (f : β → γ → ℝ) (l₁ l₁' : List β) (l₂ l₂' : List γ) (h1 : l₁.Perm l₁') (h2 : l₂.Perm l₂') :
    (l₁.map fun a => (l₂.map fun b => f a b).sum).sum = (l₁'.map fun a => (l₂'.map fun b => f a b).sum).sum := by
  have hin : (fun a => (l₂.map fun b => f a b).sum) = fun a => (l₂'.map fun b => f a b).sum := by
    funext a; exact (h2.map _).sum_eq
  rw [hin, (h1.map _).sum_eq]

theorem hasDerivAt_list_sum {ι : Type} (l : List ι) (f : ι → ℝ → ℝ) (f' : ι → ℝ) (x : ℝ)
    (h : ∀ i ∈ l, HasDerivAt (f i) (f' i) x) :
    HasDerivAt (fun t : ℝ => (l.map fun i => f i t).sum) ((l.map f').sum) x := by
  simp only [← Fin.sum_univ_fun_getElem]
  exact HasDerivAt.fun_sum fun i _ => h _ (List.getElem_mem _)

/-! ## lists read by position

The default is written `0`; where the model reads with `0.0`, rewrite with `lit_zero` first. -/

theorem getD_of_lt {β : Type} (l : List β) (j : Nat) (d : β) (h : j < l.length) : l.getD j d = l[j] :=
  (List.getElem_eq_getD d).symm

theorem getD_map_of_lt {β γ : Type} (f : β → γ) (l : List β) (k : Nat) (d : γ) (hk : k < l.length) :
    (l.map f).getD k d = f l[k] := by
  simp [List.getD_eq_getElem?_getD, hk]

theorem getD_modify {β : Type} (f : β → β) (l : List β) (k a : Nat) (d : β) (ha : a < l.length) :
    (l.modify k f).getD a d = if k = a then f (l.getD a d) else l.getD a d := by
  simp only [List.getD_eq_getElem?_getD, List.getElem?_modify, List.getElem?_eq_getElem ha]
  by_cases h : k = a <;> simp [h]

theorem map_getD_range {β : Type} (l : List β) (d : β) (n : Nat) (h : n ≤ l.length) :
    (List.range n).map (fun i => l.getD i d) = l.take n := by
  refine List.ext_getElem (by rw [List.length_map, List.length_range, List.length_take, Nat.min_eq_left h]) fun i h1 _ => ?_
  rw [List.length_map, List.length_range] at h1
  rw [List.getElem_map, List.getElem_range, List.getElem_take, getD_of_lt _ _ _ (by omega)]

theorem map_getD_range_self {β : Type} (l : List β) (d : β) (n : Nat) (h : l.length = n) :
    (List.range n).map (fun i => l.getD i d) = l := by
  rw [map_getD_range l d n (by omega), ← h, List.take_length]

theorem map_getD_range_offset {β : Type} (l : List β) (d : β) (a m : Nat) (h : a + m ≤ l.length) :
    (List.range m).map (fun i => l.getD (a + i) d) = (l.drop a).take m := by
  rw [← map_getD_range (l.drop a) d m (by rw [List.length_drop]; omega)]
  refine List.map_congr_left fun i _ => ?_
  rw [List.getD_eq_getElem?_getD, List.getD_eq_getElem?_getD, List.getElem?_drop]

theorem take_map_range {β : Type} (f : Nat → β) (n i : Nat) (h : i ≤ n) :
    ((List.range n).map f).take i = (List.range i).map f := by
  rw [← List.map_take, List.take_range, Nat.min_eq_left h]

theorem take_drop_map_range {β : Type} (f : Nat → β) {N a b : Nat} (h : a + b ≤ N) :
    (((List.range N).map f).drop a).take b = (List.range b).map fun i => f (a + i) := by
  rw [← List.map_drop, ← List.map_take, List.range_eq_range', List.drop_range',
    List.take_range'_of_length_ge (by omega), List.range'_eq_map_range, List.map_map, Nat.zero_add, Nat.mul_one]
  rfl

theorem getD_zipWith_of_lt {β γ δ : Type} (g : β → γ → δ) (l : List β) (m : List γ) (j : Nat) (db : β) (dc : γ) (d : δ)
    (hl : j < l.length) (hm : j < m.length) :
    (List.zipWith g l m).getD j d = g (l.getD j db) (m.getD j dc) := by
  rw [getD_of_lt _ _ _ (by rw [List.length_zipWith]; omega), getD_of_lt _ _ _ hl,
    getD_of_lt _ _ _ hm, List.getElem_zipWith]

theorem getD_zipWith_of_zero {X : Type} [Zero X] (f : X → X → X) (hf : f 0 0 = 0) {l₁ l₂ : List X}
    (h : l₁.length = l₂.length) (j : Nat) : (List.zipWith f l₁ l₂).getD j 0 = f (l₁.getD j 0) (l₂.getD j 0) := by
  simp only [List.getD_eq_getElem?_getD, List.getElem?_zipWith]
  rcases Nat.lt_or_ge j l₁.length with hj | hj
  · rw [List.getElem?_eq_getElem hj, List.getElem?_eq_getElem (h ▸ hj)]
    rfl
  · rw [List.getElem?_eq_none hj, List.getElem?_eq_none (h ▸ hj)]
    exact hf.symm

theorem getD_zipWith_add (l₁ l₂ : List ℝ) (h : l₁.length = l₂.length) (j : Nat) :
    (List.zipWith (· + ·) l₁ l₂).getD j 0 = l₁.getD j 0 + l₂.getD j 0 :=
  getD_zipWith_of_zero _ (add_zero 0) h j

theorem getD_replicate_self {β : Type} (n i : Nat) (x : β) : (List.replicate n x).getD i x = x := by
  simp only [List.getD_eq_getElem?_getD, List.getElem?_replicate]
  split_ifs <;> rfl

theorem zipWith_neutral {β γ : Type} (f : β → γ → β) (l : List β) (m : List γ)
    (hf : ∀ x, ∀ y ∈ m, f x y = x) (hlen : l.length ≤ m.length) : List.zipWith f l m = l :=
  (List.map_uncurry_zip_eq_zipWith.symm.trans
    (List.map_congr_left fun xy h => hf xy.1 xy.2 (List.of_mem_zip h).2)).trans (List.map_fst_zip hlen)

end Cv
