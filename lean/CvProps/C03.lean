import CvProps.C03Lemmas
import CvProps.MetaStep
/-!
# C03 — a run resumed from a saved state is indistinguishable from an uninterrupted run

Property theorems about `CvModel/Resume.lean` and `CvModel/Module.lean` at `α := ℝ`
(module with value-injected scalar variables; biases: histogram, ABF, harmonic, restraints with schedules), and about
what metadynamics writes and loads (`metaFlush` / `metaLoaded` of `CvModel/Meta.lean`; second half of the file).
The relations of the statements are defined in `C03Lemmas.lean`.

The engine convention (NAMD / LAMMPS / GROMACS, mirrored by the harness): the stop step K is evaluated again, with
the same coordinates, as step 0 of the resumed run (`Clock.first`), and every later step advances the counter.
-/
open Cv Cv.C08 Cv.C03L Cv.C05

namespace Cv.C03

/-! ## saving immediately after loading reproduces the state that was loaded -/

theorem save_after_load_bias (fresh saved : Bias ℝ) (h : Compatible fresh saved) :
    saveBias (loadBias fresh saved) = saveBias saved := by
  cases saved with
  | hist i g z d => obtain ⟨d0, rfl⟩ := h.of_hist; rfl
  | abf i p s => obtain ⟨s0, rfl⟩ := h.of_abf; rfl
  | harm i k c => rw [h.of_harm]; rfl
  | mtd i p s => cases fresh <;> exact h.elim
  | restr i' ps s =>
    cases fresh with
    | restr i p s0 =>
      -- a restraint writes each of its fields exactly when loading reads it back
      obtain ⟨fs, rfl⟩ : ∃ fs, ps = { p with firstStep := fs } := ⟨_, h.2⟩
      by_cases hm : (p.targetCenters.isSome || p.chgK) = true
      · simp only [loadBias, saveBias, hm, if_true, ite_some_ite]
      · obtain ⟨h1, h2⟩ := Bool.or_eq_false_iff.1 (Bool.eq_false_iff.2 hm)
        simp only [loadBias, saveBias, h1, h2, Bool.or_false, Bool.false_eq_true, if_false, ite_some_ite,
          Bool.false_and]
    | _ => exact h.elim

theorem save_after_load (fresh saved : Sys ℝ)
    (hn : fresh.biases.map (·.1) = saved.biases.map (·.1)) (hnd : (saved.biases.map (·.1)).Nodup)
    (hc : ∀ pr ∈ fresh.biases.zip saved.biases, Compatible pr.1.2 pr.2.2) :
    persist (sysLoad fresh saved) = persist saved := by
  simp only [persist, sysLoad_biases, List.map_map]
  refine congrArg (Prod.mk _) (map_eq_map_of_getElem? (by simpa using congrArg List.length hn) fun k f s hf hs => ?_)
  rw [Function.comp, loadOne_eq hn hnd hf hs, save_after_load_bias _ _ (hc _ (mem_zip_of_getElem? hf hs)),
    eq_of_map_eq hn hf hs]

/-- the loaded instance holds the saved accumulated data: histogram counts, ABF counts and gradient sums -/
theorem load_restores_data (fresh saved : Bias ℝ) (h : Compatible fresh saved) :
    (∀ i g z d, saved = .hist i g z d → ∃ i' g' z', loadBias fresh saved = .hist i' g' z' d) ∧
    (∀ i p s, saved = .abf i p s → ∃ s', loadBias fresh saved = .abf i p s' ∧ s'.samples = s.samples ∧ s'.grad = s.grad) := by
  constructor
  · rintro i g z d rfl
    obtain ⟨d0, rfl⟩ := h.of_hist
    exact ⟨_, _, _, rfl⟩
  · rintro i p s rfl
    obtain ⟨s0, rfl⟩ := h.of_abf
    exact ⟨_, rfl, rfl, rfl⟩

/-! ## after the stop step the two runs are identical step for step -/

/-- one ordinary step (not a repeated step 0) keeps the two instances together and gives the same energy and forces -/
theorem step_together (a b : Sys ℝ) (i : StepIn ℝ) (h : SameUpToRun a b) (hc : i.cont = false) :
    (modStep a i).2 = (modStep b i).2 ∧ SameUpToRun (modStep a i).1 (modStep b i).1 := by
  have hce := h.clockEq
  -- same `cvsAt` and `updAt`: everything but the clock is then the same term
  rw [modStep_eq_at a, modStep_eq_at b, h.cvsAt_eq hc, h.updAt_eq hc, hc]
  refine ⟨rfl, ?_⟩
  have hta := tick_running a.clock h.running.1
  have htb := tick_running b.clock h.running.2
  exact {
    it := hce.it
    running := by simpa [hta, htb] using h.running
    rel := ⟨le_of_lt hce.pos, le_of_lt hce.pos'⟩
    tfSame := h.tfSame
    tfLoop := h.tfLoop
    tsf := h.tsf
    biases := rfl
    applied := rfl
    cvsLen := rfl
    cvs := fun k va vb h1 h2 => by
      obtain rfl : va = vb := Option.some.inj (h1.symm.trans h2)
      exact ⟨rfl, Or.inr rfl⟩ }

/-- hence whole runs coincide: the same outputs at every step, and the same state file at the end -/
theorem runs_together (a b : Sys ℝ) (ins : List (StepIn ℝ)) (h : SameUpToRun a b) (hc : ∀ i ∈ ins, i.cont = false) :
    (sysRun a ins).2 = (sysRun b ins).2 ∧ persist (sysRun a ins).1 = persist (sysRun b ins).1 ∧
    SameUpToRun (sysRun a ins).1 (sysRun b ins).1 := by
  induction ins generalizing a b with
  | nil => exact ⟨rfl, by simp only [sysRun, persist, h.it, h.biases], h⟩
  | cons i is ih =>
    obtain ⟨h1, h2⟩ := step_together a b i h (hc i (by simp))
    obtain ⟨h3, h4, h5⟩ := ih _ _ h2 (fun j hj => hc j (by simp [hj]))
    exact ⟨by simp only [sysRun, h1, h3], h4, h5⟩

/-! ## the stop step re-evaluated from the loaded state (histogram, harmonic, ABF) -/

/-- **the stop step, re-evaluated**: let `s` be the state after an ordinary step `i` of the uninterrupted run
    (`prev` was already running); a fresh instance that loads `s` and evaluates the same step `i` again gives the same
    energy and the same atomic forces, accumulates nothing twice, and ends up in the same state up to run bookkeeping -/
theorem stop_step_reproduced (prev fresh : Sys ℝ) (i : StepIn ℝ)
    (hrun : prev.clock.first = false) (hrel : 0 ≤ prev.clock.stepRelative) (hc : i.cont = false)
    (hsimple : Simple prev) (htidy : Tidy prev) (hf : FreshOf fresh (modStep prev i).1) :
    let s := (modStep prev i).1
    let r := modStep (sysLoad fresh s) i
    r.2 = (modStep prev i).2 ∧ persist r.1 = persist s ∧ SameUpToRun s r.1 := by
  intro s r
  obtain ⟨h1, h2, h3, h4, h5⟩ := reload_step hf hsimple htidy
  have hsc : s.clock = { prev.clock with it := prev.clock.it + 1, cont := false } :=
    (modStep_clock prev i).trans (by rw [hc, tick_running _ hrun])
  have hrc : r.1.clock = { it := s.clock.it, itRestart := s.clock.it, first := false, cont := false } :=
    sysLoad_tick fresh s i.cont
  have hit : r.1.clock.it = s.clock.it := by rw [hrc]
  refine ⟨h1, congrArg₂ Prod.mk hit (by rw [h2]), ?_⟩
  exact {
    it := hit.symm
    running := ⟨by rw [hsc]; exact hrun, by rw [hrc]⟩
    rel := ⟨by rw [hsc]; simp only [Clock.stepRelative] at hrel ⊢; omega, by rw [hrc]; exact le_of_eq (sub_self _).symm⟩
    tfSame := hf.tfSame.symm
    tfLoop := hf.tfLoop.symm
    tsf := hf.tsf.symm
    biases := h2.symm
    applied := h3.symm
    cvsLen := h4.symm
    cvs := h5 }

/-- **resume ≡ uninterrupted** (histogram / harmonic / ABF modules): stop after step `i`, load into a fresh instance,
    re-evaluate `i`, continue with `rest`: every later output and the final state file equal those of the run that
    never stopped -/
theorem resume_equals_uninterrupted (prev fresh : Sys ℝ) (i : StepIn ℝ) (rest : List (StepIn ℝ))
    (hrun : prev.clock.first = false) (hrel : 0 ≤ prev.clock.stepRelative) (hc : i.cont = false)
    (hrest : ∀ j ∈ rest, j.cont = false)
    (hsimple : Simple prev) (htidy : Tidy prev) (hf : FreshOf fresh (modStep prev i).1) :
    let s := (modStep prev i).1
    let resumed := sysRun (sysLoad fresh s) (i :: rest)
    let straight := sysRun s rest
    resumed.2.tail = straight.2 ∧ persist resumed.1 = persist straight.1 := by
  intro s resumed straight
  obtain ⟨-, -, h3⟩ := stop_step_reproduced prev fresh i hrun hrel hc hsimple htidy hf
  obtain ⟨h4, h5, -⟩ := runs_together _ _ rest h3 hrest
  exact ⟨h4.symm, h5.symm⟩


/-! ## metadynamics: what is written, what is loaded, how the run continues

  `metaFlush` is the side effect of writing a state on the running bias (pending hills are projected onto the grids,
  explicit hills dropped unless kept), `metaLoaded` is what a fresh instance holds after reading that state. -/

/-- two metadynamics states that the bias cannot tell apart: same grid definition, tabulated energy and gradients,
    hills near the boundaries and hills not yet tabulated; the same explicit hills whenever these are used (no grids) or
    kept (keepHills) -/
structure MetaSame (p : MetaParams ℝ) (a b : MetaState ℝ) : Prop where
  g : a.g = b.g
  gridE : a.gridE = b.gridE
  gridG : a.gridG = b.gridG
  offGrid : a.offGrid = b.offGrid
  nNew : a.nNew = b.nNew
  newH : newHills a = newHills b
  le : a.nNew ≤ a.hills.length ∧ b.nNew ≤ b.hills.length
  hills : (p.useGrids = false ∨ p.keepHills = true) → a.hills = b.hills

/-- tabulated data have the size of the grid -/
def GridWF (s : MetaState ℝ) : Prop :=
  s.gridE.length = (allIndices s.g.nx).length ∧ s.gridG.length = (allIndices s.g.nx).length * s.g.nx.length

/-- the instance that loaded the state cannot be told apart from the running instance that wrote it -/
theorem meta_loaded_same_as_writer (p : MetaParams ℝ) (s : MetaState ℝ)
    (hng : p.useGrids = false → s.nNew = s.hills.length) (hle : s.nNew ≤ s.hills.length) :
    MetaSame p (metaLoaded p s) (metaFlush p s) := by
  cases hu : p.useGrids
  · -- without grids nothing is flushed and everything is loaded: both are `s`
    rw [metaLoaded_off p s hu, ← hng hu, metaFlush_off p s hu]
    exact ⟨rfl, rfl, rfl, rfl, rfl, rfl, ⟨hle, hle⟩, fun _ => rfl⟩
  · have h0 : (metaFlush p s).nNew = 0 := by rw [metaFlush_on p s hu]
    rw [metaLoaded_on p s hu]
    exact {
      g := rfl
      gridE := rfl
      gridG := rfl
      offGrid := rfl
      nNew := h0.symm
      newH := (newHills_none _ rfl).trans (newHills_none _ h0).symm
      le := ⟨Nat.zero_le _, h0 ▸ Nat.zero_le _⟩
      hills := fun hk => if_pos (hk.resolve_left (by simp [hu])) }

theorem meta_same_energy (p : MetaParams ℝ) (a b : MetaState ℝ) (h : MetaSame p a b) (xs : List ℝ) :
    metaEnergy p a xs = metaEnergy p b xs ∧ ∀ i, metaForce p a xs i = metaForce p b xs i := by
  refine ⟨?_, fun i => ?_⟩
  · simp only [metaEnergy, h.g, h.gridE, h.offGrid, h.newH]
  · simp only [metaForce, h.g, h.gridG, h.offGrid, h.newH]

private theorem newHill_same {p : MetaParams ℝ} {a b : MetaState ℝ} (h : MetaSame p a b) (c : Clock) (xs : List ℝ) :
    newHill p c a xs = newHill p c b xs := by
  simp only [newHill, wtEnergyHere, h.g, h.gridE, h.offGrid, h.newH]

private theorem MetaSame.afterDeposit {p : MetaParams ℝ} {a b : MetaState ℝ} (h : MetaSame p a b) (c : Clock)
    (xs : List ℝ) : MetaSame p (afterDeposit p c a xs) (afterDeposit p c b xs) := by
  cases hd : depositNow p c
  · rw [afterDeposit_off _ _ _ _ hd, afterDeposit_off _ _ _ _ hd]
    exact h
  · rw [afterDeposit_on _ _ _ _ hd, afterDeposit_on _ _ _ _ hd, newHill_same h, h.g]
    exact {
      g := rfl
      gridE := h.gridE
      gridG := h.gridG
      offGrid := by simp only [h.offGrid]
      nNew := congrArg (· + 1) h.nNew
      newH := (newHills_snoc a _ _ rfl rfl).trans
        ((congrArg (· ++ [_]) h.newH).trans (newHills_snoc b _ _ rfl rfl).symm)
      le := by
        simp only [List.length_append, List.length_singleton]
        exact ⟨Nat.succ_le_succ h.le.1, Nat.succ_le_succ h.le.2⟩
      hills := fun hk => congrArg (· ++ [_]) (h.hills hk) }

private theorem MetaSame.afterGrid {p : MetaParams ℝ} {a b : MetaState ℝ} (h : MetaSame p a b) (c : Clock) :
    MetaSame p (afterGrid p c a) (afterGrid p c b) := by
  cases hg : gridTime p c
  · rw [afterGrid_off _ _ _ hg, afterGrid_off _ _ _ hg]
    exact h
  · rw [afterGrid_on _ _ _ hg, afterGrid_on _ _ _ hg]
    exact {
      g := h.g
      gridE := by simp only [projectHills, h.g, h.gridE, h.newH]
      gridG := by simp only [projectHills, h.g, h.gridG, h.newH]
      offGrid := h.offGrid
      nNew := rfl
      newH := (newHills_none _ rfl).trans (newHills_none _ rfl).symm
      le := ⟨Nat.zero_le _, Nat.zero_le _⟩
      hills := fun hk => by
        show (if p.keepHills = true then a.hills else []) = if p.keepHills = true then b.hills else []
        cases hkk : p.keepHills
        · rfl
        · exact h.hills (.inr hkk) }

/-- one update of two indistinguishable states (grids that do not expand) gives the same energy and forces and leaves
    them indistinguishable: hence the same at every later step, by induction -/
theorem meta_step_together (p : MetaParams ℝ) (c : Clock) (a b : MetaState ℝ) (xs : List ℝ)
    (h : MetaSame p a b) (hexp : p.expand.any id = false) :
    (metaStep p c a xs).2 = (metaStep p c b xs).2 ∧ MetaSame p (metaStep p c a xs).1 (metaStep p c b xs).1 := by
  have h3 : MetaSame p (metaStep p c a xs).1 (metaStep p c b xs).1 := by
    rw [metaStep_fst, metaStep_fst, expandGrids_off p a xs (.inr hexp), expandGrids_off p b xs (.inr hexp)]
    exact (h.afterDeposit c xs).afterGrid c
  obtain ⟨e1, e2⟩ := meta_same_energy p _ _ h3 xs
  refine ⟨?_, h3⟩
  rw [metaStep_snd, metaStep_snd, e1]
  exact congrArg _ (List.map_congr_left fun i _ => e2 i)


private theorem meta_run_together (p : MetaParams ℝ) (hexp : p.expand.any id = false) (hist : List (Clock × List ℝ)) :
    ∀ (a b : MetaState ℝ) (out : List (ℝ × List ℝ)), MetaSame p a b →
    (hist.foldl (fun (acc : MetaState ℝ × List (ℝ × List ℝ)) cx =>
        let r := metaStep p cx.1 acc.1 cx.2; (r.1, acc.2 ++ [r.2])) (a, out)).2 =
    (hist.foldl (fun (acc : MetaState ℝ × List (ℝ × List ℝ)) cx =>
        let r := metaStep p cx.1 acc.1 cx.2; (r.1, acc.2 ++ [r.2])) (b, out)).2 := by
  induction hist with
  | nil => intro a b out _; rfl
  | cons cx rest ih =>
    intro a b out h
    obtain ⟨h1, h2⟩ := meta_step_together p cx.1 a b cx.2 h hexp
    simp only [List.foldl_cons, h1]
    exact ih _ _ _ h2

/-- **resume ≡ the run that wrote the state**: from the loaded state and from the flushed running state, any further
    history of updates gives the same energies and forces -/
theorem meta_resume (p : MetaParams ℝ) (s : MetaState ℝ) (hist : List (Clock × List ℝ))
    (hng : p.useGrids = false → s.nNew = s.hills.length) (hle : s.nNew ≤ s.hills.length)
    (hexp : p.expand.any id = false) :
    let run := fun (s0 : MetaState ℝ) => (hist.foldl (fun (acc : MetaState ℝ × List (ℝ × List ℝ)) cx =>
        let r := metaStep p cx.1 acc.1 cx.2; (r.1, acc.2 ++ [r.2])) (s0, [])).2
    run (metaLoaded p s) = run (metaFlush p s) := by
  intro run
  exact meta_run_together p hexp hist _ _ [] (meta_loaded_same_as_writer p s hng hle)

private theorem projectHills_nil (p : MetaParams ℝ) (s : MetaState ℝ) (hwf : GridWF s) :
    projectHills p s [] = s := by
  obtain ⟨h1, h2⟩ := hwf
  have hE : List.zipWith (· + ·) s.gridE ((allIndices s.g.nx).map fun ix => hillsEnergy p [] (binCenters s.g ix)) = s.gridE := by
    apply zipWith_neutral
    · intro x y hy
      obtain ⟨ix, -, rfl⟩ := List.mem_map.1 hy
      rw [hillsEnergy_nil, add_zero]
    · simp [h1]
  have hG : List.zipWith (fun g f => g - f) s.gridG ((allIndices s.g.nx).flatMap fun ix =>
      (List.range s.g.nx.length).map fun i => hillsForce p [] (binCenters s.g ix) i) = s.gridG := by
    apply zipWith_neutral
    · intro x y hy
      obtain ⟨ix, -, hy⟩ := List.mem_flatMap.1 hy
      obtain ⟨i, -, rfl⟩ := List.mem_map.1 hy
      rw [hillsForce_nil, sub_zero]
    · simp [h2, List.length_flatMap]
  simp only [projectHills, hE, hG]

private theorem metaFlush_settled (p : MetaParams ℝ) (s : MetaState ℝ) (hu : p.useGrids = true) (hn : s.nNew = 0)
    (hwf : GridWF s) : metaFlush p s = { s with nNew := 0, hills := if p.keepHills then s.hills else [] } := by
  rw [metaFlush_on p s hu, newHills_none s hn, projectHills_nil p s hwf]

/-- writing a state twice in a row changes nothing the second time -/
theorem meta_flush_idempotent (p : MetaParams ℝ) (s : MetaState ℝ) (hwf : GridWF (metaFlush p s)) :
    metaFlush p (metaFlush p s) = metaFlush p s := by
  cases hu : p.useGrids
  · rw [metaFlush_off p _ hu]
  · -- nothing pending after a flush; kept hills are kept again
    rw [metaFlush_settled p _ hu (by rw [metaFlush_on p s hu]) hwf, metaFlush_on p s hu]
    cases p.keepHills <;> rfl

/-- metadynamics: what is loaded from a written state, written and loaded again, is unchanged -/
theorem meta_save_after_load (p : MetaParams ℝ) (s : MetaState ℝ) (hwf : GridWF (metaFlush p s)) :
    metaLoaded p (metaLoaded p s) = metaLoaded p s := by
  cases hu : p.useGrids
  · rw [metaLoaded_off p _ hu, metaLoaded_off p s hu]
  · -- the loaded state has no pending hills: writing it projects nothing
    rw [metaLoaded_on p (metaLoaded p s) hu, metaFlush_settled p (metaLoaded p s) hu (by rw [metaLoaded_on p s hu]) hwf,
      metaLoaded_on p s hu]
    cases p.keepHills <;> rfl

end Cv.C03
