import CvProps.C20Lemmas
import CvProps.C20b
/-!
# C20 — the scripting interface is total; command bodies run only with an admissible number of arguments

Property theorems about `CvModel/Script.lean` and the command table regenerated from the source
(`CvModel/Gen/Commands.lean`); `CvProps/C20b.lean` is imported so that the check audits both files.
-/
open Cv Cv.Script

namespace Cv.C20

/-- every argument list has an outcome (the dispatcher is a total function) -/
theorem total (t : Table) (cvs bs args : List String) : ∃ o, dispatch t cvs bs args = o := ⟨_, rfl⟩

theorem checked_run (t : Table) (fn : String) (k : ObjKind) (objc : Nat) (fn' : String) (k' : ObjKind) (n : Nat)
    (h : checked t fn k objc = .run fn' k' n) :
    fn' = fn ∧ k' = k ∧ ∃ mn mx, lookupCmd t fn = some (mn, mx) ∧ mn ≤ n ∧ n ≤ mx ∧ n + shift k = objc := by
  unfold checked at h
  split at h
  · cases h
  · next mn mx hl =>
    split at h
    · cases h
    · split at h
      · cases h
      · cases h
        exact ⟨rfl, rfl, mn, mx, hl, by omega, by omega, by omega⟩

/-- a command body runs only with a number of arguments between its declared minimum and maximum, and that number
    is exactly the number of words after the command words -/
theorem arity (t : Table) (cvs bs args : List String) (fn : String) (k : ObjKind) (n : Nat)
    (h : dispatch t cvs bs args = .run fn k n) :
    ∃ mn mx, lookupCmd t fn = some (mn, mx) ∧ mn ≤ n ∧ n ≤ mx ∧ n + shift k = args.length := by
  obtain ⟨fn', k', e⟩ := dispatch_run rfl h
  obtain ⟨rfl, rfl, r⟩ := checked_run _ _ _ _ _ _ _ e
  exact r

/-- hence every access `get_*_cmd_arg(i)` guarded by `i < nargs` stays inside the argument vector -/
theorem arg_in_range (t : Table) (cvs bs args : List String) (fn : String) (k : ObjKind) (n : Nat)
    (h : dispatch t cvs bs args = .run fn k n) (i : Nat) (hi : i < n) : shift k + i < args.length := by
  obtain ⟨_, _, _, _, _, hl⟩ := arity t cvs bs args fn k n h
  omega

/-- the function that runs is the one named by the command words, in the table -/
theorem runs_named (t : Table) (cvs bs args : List String) (fn : String) (k : ObjKind) (n : Nat)
    (h : dispatch t cvs bs args = .run fn k n) : (lookupCmd t fn).isSome = true := by
  obtain ⟨mn, mx, hl, _⟩ := arity t cvs bs args fn k n h
  simp [hl]

/-- a module-level command that is not in the table is an error, never silently accepted -/
theorem unknown_is_error (t : Table) (cvs bs args : List String)
    (hc : args.getD 1 "" ≠ "colvar") (hb : args.getD 1 "" ≠ "bias")
    (hu : lookupCmd t ("cv_" ++ args.getD 1 "") = none) : isError (dispatch t cvs bs args) = true := by
  unfold dispatch
  dsimp only
  by_cases h2 : args.length < 2
  · rw [if_pos h2]; rfl
  · rw [if_neg h2, if_neg (by simpa using hc), if_neg (by simpa using hb), checked, hu]; rfl

/-- a command on a variable that does not exist is rejected unless it asks for help -/
theorem missing_colvar_is_error (t : Table) (cvs bs args : List String) (h4 : 4 ≤ args.length)
    (hc : args.getD 1 "" = "colvar") (hn : cvs.contains (args.getD 2 "") = false) (hh : args.getD 3 "" ≠ "help") :
    dispatch t cvs bs args = .notFound := by
  unfold dispatch
  dsimp only
  rw [if_neg (by omega), if_pos (by rw [hc]; rfl), if_neg (by omega), if_pos (by rw [hn]; simpa using hh)]

/-- too few or too many arguments are rejected before the body runs -/
theorem wrong_arity_is_error (t : Table) (fn : String) (k : ObjKind) (objc mn mx : Nat)
    (hl : lookupCmd t fn = some (mn, mx)) (hw : objc < shift k + mn ∨ shift k + mx < objc) :
    isError (checked t fn k objc) = true := by
  rw [checked, hl]
  dsimp only
  by_cases h : objc < shift k + mn
  · rw [if_pos h]; rfl
  · rw [if_neg h, if_pos (by omega)]; rfl

/-! ## obligations about the table regenerated from the source (re-checked whenever the source changes) -/

theorem table_nonempty : Gen.commands ≠ [] := by decide

theorem table_min_le_max : ∀ c ∈ Gen.commands, c.2.1 ≤ c.2.2 := by decide

-- `+kernel`, here and below: plain `decide` evaluates the table twice (elaborator, then kernel)
theorem table_names_distinct : (Gen.commands.map (·.1)).Nodup :=
  List.Nodup.of_map nameKey (by decide +kernel)

/-- every function name carries one of the three object prefixes, so `dispatch` can reach it -/
theorem table_prefixes : ∀ c ∈ Gen.commands,
    ("cv_".toList.isPrefixOf c.1.toList || "colvar_".toList.isPrefixOf c.1.toList ||
     "bias_".toList.isPrefixOf c.1.toList) = true := by
  have bytes : Gen.commands.all (fun c =>
      "cv_".toByteArray.data.toList.isPrefixOf c.1.toByteArray.data.toList ||
      "colvar_".toByteArray.data.toList.isPrefixOf c.1.toByteArray.data.toList ||
      "bias_".toByteArray.data.toList.isPrefixOf c.1.toByteArray.data.toList) = true := by decide +kernel
  intro c hc
  have h := List.all_eq_true.mp bytes c hc
  simp only [Bool.or_eq_true] at h ⊢
  exact h.imp (.imp isPrefixOf_toList_of_bytes isPrefixOf_toList_of_bytes) isPrefixOf_toList_of_bytes

/-! ## non-vacuity -/

example : dispatch Gen.commands ["d"] [] ["cv", "colvar", "d", "value"] = .run "colvar_value" .colvar 0 := by decide +kernel
example : dispatch Gen.commands ["d"] [] ["cv", "colvar", "d", "value", "x"] = .tooMany := by decide +kernel

end Cv.C20
