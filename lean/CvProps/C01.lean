import CvProps.C01Lemmas
/-!
# C01 — applied atomic forces are the exact negative gradient of the reported energy

About `CvModel/Geom.lean` at `α := ℝ`: for the modelled components the gradient Colvars assigns to every atom is the
derivative of the value with respect to that atom's position (along a direction `d`: at `t = 0`, atom `k` moved by
`t • d`); the polynomial combination multiplies it by `c n qⁿ⁻¹`; for a harmonic restraint the force handed to the
engine is minus the derivative of the reported energy.
-/
open Cv Cv.Geom

namespace Cv.C01

def MassOk (g : AGroup ℝ) : Prop := g ≠ [] ∧ ∀ a ∈ g, 0 < a.m

/-! ## component gradients

The centre of mass of a group whose atom `k` moves along `d` is a curve with velocity `(m_k / M) • d`
(`hasVel_com_move`); the value is differentiated along it by the `HasVel` rules, and `dot_weighted_getD` reads the
entry of the model's gradient list as the pairing of the centre's gradient with that velocity.  `MassOk` is not used:
`com_move` needs no hypothesis on the masses. -/

theorem distance_grad_group2 (g1 g2 : AGroup ℝ) (h1 : MassOk g1) (h2 : MassOk g2) (hne : distance g1 g2 ≠ 0)
    (k : Nat) (hk : k < g2.length) (d : V3 ℝ) :
    HasDerivAt (fun t : ℝ => distance g1 (move g2 k (V3.smul t d)))
      (V3.dot ((distanceGrad g1 g2).2.getD k V3.zero) d) 0 := by
  have _ := And.intro h1 h2  -- not needed
  have h := ((hasVel_com_move g2 k hk d 0).sub_const (com g1)).norm (by rw [move_zero]; exact hne)
  rw [move_zero] at h
  exact h.congr_deriv (by rw [distanceGrad, dot_weighted_getD _ _ _ _ hk, V3.dot_unit]; rfl)

theorem distance_grad_group1 (g1 g2 : AGroup ℝ) (h1 : MassOk g1) (h2 : MassOk g2) (hne : distance g1 g2 ≠ 0)
    (k : Nat) (hk : k < g1.length) (d : V3 ℝ) :
    HasDerivAt (fun t : ℝ => distance (move g1 k (V3.smul t d)) g2)
      (V3.dot ((distanceGrad g1 g2).1.getD k V3.zero) d) 0 := by
  have _ := And.intro h1 h2  -- not needed
  have h := ((hasVel_com_move g1 k hk d 0).const_sub (com g2)).norm (by rw [move_zero]; exact hne)
  rw [move_zero] at h
  exact h.congr_deriv (by
    rw [distanceGrad, dot_weighted_getD _ _ _ _ hk, V3.dot_smul_left, V3.dot_smul_right, V3.dot_unit, distVec, lit_one]
    ring)

theorem distanceZ_grad_main (main ref : AGroup ℝ) (axis : V3 ℝ) (hm : MassOk main) (hr : MassOk ref)
    (k : Nat) (hk : k < main.length) (d : V3 ℝ) :
    HasDerivAt (fun t : ℝ => distanceZ (move main k (V3.smul t d)) ref axis)
      (V3.dot ((distanceZGrad main ref axis).1.getD k V3.zero) d) 0 := by
  have _ := And.intro hm hr  -- not needed
  have h := ((hasVel_com_move main k hk d 0).sub_const (com ref)).const_dot (V3.unit axis)
  exact h.congr_deriv (by rw [distanceZGrad, dot_weighted_getD _ _ _ _ hk])

theorem distanceZ_grad_ref (main ref : AGroup ℝ) (axis : V3 ℝ) (hm : MassOk main) (hr : MassOk ref)
    (k : Nat) (hk : k < ref.length) (d : V3 ℝ) :
    HasDerivAt (fun t : ℝ => distanceZ main (move ref k (V3.smul t d)) axis)
      (V3.dot ((distanceZGrad main ref axis).2.getD k V3.zero) d) 0 := by
  have _ := And.intro hm hr  -- not needed
  have h := ((hasVel_com_move ref k hk d 0).const_sub (com main)).const_dot (V3.unit axis)
  exact h.congr_deriv (by
    rw [distanceZGrad, dot_weighted_getD _ _ _ _ hk, V3.dot_smul_left, V3.dot_smul_right, lit_one])

/-- the axis through ref and ref2 moves with them: the gradients on the two reference groups (Colvars fix 5c098d8b) -/
theorem distanceZ2_grad_ref1 (main r1 r2 : AGroup ℝ) (hm : MassOk main) (h1 : MassOk r1) (h2 : MassOk r2)
    (hax : V3.norm (V3.sub (com r2) (com r1)) ≠ 0) (k : Nat) (hk : k < r1.length) (d : V3 ℝ) :
    HasDerivAt (fun t : ℝ => distanceZ2 main (move r1 k (V3.smul t d)) r2)
      (V3.dot ((distanceZ2Grad main r1 r2).2.1.getD k V3.zero) d) 0 := by
  have _ := And.intro hm (And.intro h1 h2)  -- not needed
  have h := hasDerivAt_axisProj (hasVel_com_move r1 k hk d 0) (HasVel.const (com r2) 0) (com main)
    (by rw [move_zero]; exact hax)
  simp only [move_zero] at h
  exact h.congr_deriv (by rw [distanceZ2Grad_eq, dot_weighted_getD _ _ _ _ hk, V3.dot_zero_right, add_zero])

theorem distanceZ2_grad_ref2 (main r1 r2 : AGroup ℝ) (hm : MassOk main) (h1 : MassOk r1) (h2 : MassOk r2)
    (hax : V3.norm (V3.sub (com r2) (com r1)) ≠ 0) (k : Nat) (hk : k < r2.length) (d : V3 ℝ) :
    HasDerivAt (fun t : ℝ => distanceZ2 main r1 (move r2 k (V3.smul t d)))
      (V3.dot ((distanceZ2Grad main r1 r2).2.2.getD k V3.zero) d) 0 := by
  have _ := And.intro hm (And.intro h1 h2)  -- not needed
  have h := hasDerivAt_axisProj (HasVel.const (com r1) 0) (hasVel_com_move r2 k hk d 0) (com main)
    (by rw [move_zero]; exact hax)
  simp only [move_zero] at h
  exact h.congr_deriv (by rw [distanceZ2Grad_eq, dot_weighted_getD _ _ _ _ hk, V3.dot_zero_right, zero_add])

theorem distanceZ2_grad_main (main r1 r2 : AGroup ℝ) (hm : MassOk main) (h1 : MassOk r1) (h2 : MassOk r2)
    (k : Nat) (hk : k < main.length) (d : V3 ℝ) :
    HasDerivAt (fun t : ℝ => distanceZ2 (move main k (V3.smul t d)) r1 r2)
      (V3.dot ((distanceZ2Grad main r1 r2).1.getD k V3.zero) d) 0 := by
  have _ := And.intro hm (And.intro h1 h2)  -- not needed
  have h := ((hasVel_com_move main k hk d 0).sub_const (V3.smul 0.5 (V3.add (com r1) (com r2)))).const_dot
    (V3.unit (V3.sub (com r2) (com r1)))
  exact h.congr_deriv (by rw [distanceZ2Grad_eq, dot_weighted_getD _ _ _ _ hk])

theorem distanceXY_grad_main (main ref : AGroup ℝ) (axis : V3 ℝ) (hm : MassOk main) (hr : MassOk ref)
    (hax : V3.norm axis ≠ 0) (hne : distanceXY main ref axis ≠ 0) (k : Nat) (hk : k < main.length) (d : V3 ℝ) :
    HasDerivAt (fun t : ℝ => distanceXY (move main k (V3.smul t d)) ref axis)
      (V3.dot ((distanceXYGrad main ref axis).1.getD k V3.zero) d) 0 := by
  have _ := And.intro hm hr  -- not needed
  have hD := (hasVel_com_move main k hk d 0).sub_const (com ref)
  have h := (hD.sub (HasVel.smul_const (hD.dot_const (V3.unit axis)) (V3.unit axis))).norm
    (by rw [move_zero]; exact hne)
  simp only [move_zero, ← orthoPart_eq] at h
  refine h.congr_deriv ?_
  rw [distanceXYGrad, dot_weighted_getD _ _ _ _ hk]
  generalize V3.smul _ d = w
  -- the orthogonal part has no component along the axis
  have h0 := orthoPart_dot_axis main ref axis hax
  simp only [V3.dot_sub_right, V3.dot_smul_right, V3.dot_smul_left, h0, lit_one]
  ring

theorem gyration_grad (g : AGroup ℝ) (hg : g ≠ []) (hne : gyration g ≠ 0) (k : Nat) (hk : k < g.length) (d : V3 ℝ) :
    HasDerivAt (fun t : ℝ => gyration (move g k (V3.smul t d)))
      (V3.dot ((gyrationGrad g).getD k V3.zero) d) 0 := by
  have hN := length_cast_ne_zero g hg
  have h0 : Real.sqrt (inertia (move g k (V3.smul 0 d)) / (g.length : ℝ)) ≠ 0 := by rw [move_zero]; exact hne
  have h := ((symBilin_dot.hasDerivAt_moment_move g hg k hk d).div_const (g.length : ℝ)).sqrt
    (fun h => h0 (by rw [inertia_eq_moment, h, Real.sqrt_zero]))
  simp only [gyration_eq_sqrt_inertia, length_move]
  refine h.congr_deriv ?_
  rw [move_zero, ← inertia_eq_moment, ← gyration_eq_sqrt_inertia, gyrationGrad, centered_getD _ g k hk, V3.dot_smul_left,
    lit_one]
  field_simp

/-! ## combination of components and the bias force -/

/-- the polynomial combination: if every component value `q i t` has derivative `q' i` at 0, the variable has
    derivative `Σ c n qⁿ⁻¹ q'` — the factor `communicate_forces` applies to the force on the variable -/
theorem combine_chain (cs : List (ℝ × Nat)) (q : Nat → ℝ → ℝ) (q' : Nat → ℝ)
    (hq : ∀ i, i < cs.length → HasDerivAt (q i) (q' i) 0) :
    HasDerivAt (fun t : ℝ => combine ((List.range cs.length).map fun i => ({ c := (cs.getD i (0, 0)).1, n := (cs.getD i (0, 0)).2, q := q i t } : Term ℝ)))
      (((List.range cs.length).map fun i =>
          termFactor ({ c := (cs.getD i (0, 0)).1, n := (cs.getD i (0, 0)).2, q := q i 0 } : Term ℝ) * q' i).sum) 0 := by
  exact hasDerivAt_combine (List.range cs.length) (fun i => (cs.getD i (0, 0)).1) (fun i => (cs.getD i (0, 0)).2) q q'
    (fun i hi => hq i (List.mem_range.mp hi))

/-- **force = −∇E** for a harmonic restraint on a variable `x = c · distance(g1, g2)ⁿ`: the energy reported is
    `½ k ((x − x₀)/w)²`, the force on the variable is `−k (x − x₀)/w²`, and the force handed to the engine for atom
    `j` of group2 is that force times `c n qⁿ⁻¹` times the atom's gradient; its projection on any direction is minus
    the derivative of the energy along that direction -/
theorem harmonic_force_is_minus_gradient (g1 g2 : AGroup ℝ) (h1 : MassOk g1) (h2 : MassOk g2) (hne : distance g1 g2 ≠ 0)
    (c : ℝ) (n : Nat) (kf x₀ w : ℝ) (hw : w ≠ 0) (j : Nat) (hj : j < g2.length) (d : V3 ℝ) :
    let x := fun (g : AGroup ℝ) => combine [({ c := c, n := n, q := distance g1 g } : Term ℝ)]
    let energy := fun (g : AGroup ℝ) => 0.5 * kf * ((x g - x₀) / w) ^ 2
    let fvar := -(kf * (x g2 - x₀) / (w * w))
    let fatom := V3.smul (fvar * termFactor ({ c := c, n := n, q := distance g1 g2 } : Term ℝ))
                   ((distanceGrad g1 g2).2.getD j V3.zero)
    HasDerivAt (fun t : ℝ => energy (move g2 j (V3.smul t d))) (-(V3.dot fatom d)) 0 := by
  intro x energy fvar fatom
  have _ := hw  -- not needed: `x / 0 = 0`
  have hq := distance_grad_group2 g1 g2 h1 h2 hne j hj d
  have hx : HasDerivAt (fun t : ℝ => x (move g2 j (V3.smul t d)))
      (termFactor ({ c := c, n := n, q := distance g1 (move g2 j (V3.smul 0 d)) } : Term ℝ)
        * V3.dot ((distanceGrad g1 g2).2.getD j V3.zero) d) 0 := by
    simp only [x, combine_eq, List.map_cons, List.map_nil, List.sum_cons, List.sum_nil, add_zero]
    exact hasDerivAt_term c n _ _ 0 hq
  have h := hasDerivAt_harmonicEnergy kf x₀ w hx
  simp only [move_zero] at h
  refine h.congr_deriv ?_
  simp only [fatom, fvar, x, V3.dot_smul_left]
  ring

/-- no net force and no force on atoms that are not in the groups: the gradients of a distance sum to zero over all
    its atoms (translation invariance seen from the forces) -/
theorem distance_grad_sum_zero (g1 g2 : AGroup ℝ) (h1 : MassOk g1) (h2 : MassOk g2) :
    V3.add (groupForce (distanceGrad g1 g2).1) (groupForce (distanceGrad g1 g2).2) = V3.zero := by
  simp only [distanceGrad]
  rw [groupForce_weighted g1 (totalMass_pos g1 h1.1 h1.2).ne', groupForce_weighted g2 (totalMass_pos g2 h2.1 h2.2).ne']
  ext <;> simp only [v3, lit_one] <;> ring


/-! ## angle (degrees) -/

/-- non-degenerate angle: both arms have non-zero length and are not collinear -/
def AngleOk (g1 g2 g3 : AGroup ℝ) : Prop :=
  V3.norm (V3.sub (com g1) (com g2)) ≠ 0 ∧ V3.norm (V3.sub (com g3) (com g2)) ≠ 0 ∧
  -1 < angleCos g1 g2 g3 ∧ angleCos g1 g2 g3 < 1

theorem angle_grad_group1 (g1 g2 g3 : AGroup ℝ) (h1 : MassOk g1) (h2 : MassOk g2) (h3 : MassOk g3)
    (hok : AngleOk g1 g2 g3) (k : Nat) (hk : k < g1.length) (d : V3 ℝ) :
    HasDerivAt (fun t : ℝ => angle (move g1 k (V3.smul t d)) g2 g3)
      (V3.dot ((angleGrad g1 g2 g3).1.getD k V3.zero) d) 0 := by
  have _ := And.intro h1 (And.intro h2 h3)  -- not needed
  have h := hasDerivAt_angle ((hasVel_com_move g1 k hk d 0).sub_const (com g2))
    (HasVel.const (V3.sub (com g3) (com g2)) 0) (by rw [move_zero]; exact hok.1) hok.2.1
    (by rw [move_zero]; exact hok.2.2.1) (by rw [move_zero]; exact hok.2.2.2)
  simp only [move_zero] at h
  exact h.congr_deriv (by rw [angleGrad_eq, dot_weighted_getD _ _ _ _ hk, V3.dot_zero_right, add_zero])

theorem angle_grad_group3 (g1 g2 g3 : AGroup ℝ) (h1 : MassOk g1) (h2 : MassOk g2) (h3 : MassOk g3)
    (hok : AngleOk g1 g2 g3) (k : Nat) (hk : k < g3.length) (d : V3 ℝ) :
    HasDerivAt (fun t : ℝ => angle g1 g2 (move g3 k (V3.smul t d)))
      (V3.dot ((angleGrad g1 g2 g3).2.2.getD k V3.zero) d) 0 := by
  have _ := And.intro h1 (And.intro h2 h3)  -- not needed
  have h := hasDerivAt_angle (HasVel.const (V3.sub (com g1) (com g2)) 0)
    ((hasVel_com_move g3 k hk d 0).sub_const (com g2)) hok.1 (by rw [move_zero]; exact hok.2.1)
    (by rw [move_zero]; exact hok.2.2.1) (by rw [move_zero]; exact hok.2.2.2)
  simp only [move_zero] at h
  exact h.congr_deriv (by rw [angleGrad_eq, dot_weighted_getD _ _ _ _ hk, V3.dot_zero_right, zero_add])

/-- the vertex group: its gradient is minus the sum of the gradients of the two arms (per unit of mass share) -/
theorem angle_grad_group2 (g1 g2 g3 : AGroup ℝ) (h1 : MassOk g1) (h2 : MassOk g2) (h3 : MassOk g3)
    (hok : AngleOk g1 g2 g3) (k : Nat) (hk : k < g2.length) (d : V3 ℝ) :
    HasDerivAt (fun t : ℝ => angle g1 (move g2 k (V3.smul t d)) g3)
      (V3.dot ((angleGrad g1 g2 g3).2.1.getD k V3.zero) d) 0 := by
  have _ := And.intro h1 (And.intro h2 h3)  -- not needed
  have hc := hasVel_com_move g2 k hk d 0
  have h := hasDerivAt_angle (hc.const_sub (com g1)) (hc.const_sub (com g3)) (by rw [move_zero]; exact hok.1)
    (by rw [move_zero]; exact hok.2.1) (by rw [move_zero]; exact hok.2.2.1) (by rw [move_zero]; exact hok.2.2.2)
  simp only [move_zero] at h
  exact h.congr_deriv (by
    rw [angleGrad_eq, dot_weighted_getD _ _ _ _ hk]
    simp only [V3.dot_smul_left, V3.dot_add_left, V3.dot_smul_right, lit_one]; ring)

/-! ## inertia, inertiaZ, distanceInv, coordNum -/

theorem inertia_grad (g : AGroup ℝ) (hg : g ≠ []) (k : Nat) (hk : k < g.length) (d : V3 ℝ) :
    HasDerivAt (fun t : ℝ => inertia (move g k (V3.smul t d))) (V3.dot ((inertiaGrad g).getD k V3.zero) d) 0 := by
  exact (symBilin_dot.hasDerivAt_moment_move g hg k hk d).congr_deriv (by
    rw [inertiaGrad, centered_getD _ g k hk, V3.dot_smul_left, lit_two])

theorem inertiaZ_grad (g : AGroup ℝ) (axis : V3 ℝ) (hg : g ≠ []) (k : Nat) (hk : k < g.length) (d : V3 ℝ) :
    HasDerivAt (fun t : ℝ => inertiaZ (move g k (V3.smul t d)) axis)
      (V3.dot ((inertiaZGrad g axis).getD k V3.zero) d) 0 := by
  exact ((symBilin_proj (V3.unit axis)).hasDerivAt_moment_move g hg k hk d).congr_deriv (by
    rw [inertiaZGrad, centered_getD _ g k hk, V3.dot_smul_left, V3.dot_comm d, lit_two]; ring)

/-- the switching function of coordNum, with a pair-list tolerance: away from `l = 1` (where it is `0/0`) and from the
    point where the shifted function crosses zero (a kink), `swDeriv` is its derivative (Colvars fix f4850275) -/
theorem sw_deriv (p : SwParams ℝ) (l : ℝ) (hl : 0 < l) (h1 : l ≠ 1) (hen : 2 ≤ p.en) (hed : 2 ≤ p.ed) (htol : p.tol < 1)
    (hpos : 0 < (swRaw p l - p.tol) / (1 - p.tol)) :
    HasDerivAt (swValue p) (swDeriv p l) l := by
  have _ := htol  -- not needed: division by a constant
  obtain ⟨a, ha⟩ := Nat.exists_eq_add_one_of_ne_zero (Nat.div_pos hen two_pos).ne'
  obtain ⟨b, hb⟩ := Nat.exists_eq_add_one_of_ne_zero (Nat.div_pos hed two_pos).ne'
  have hf := ((hasDerivAt_swq a b l hl h1).sub_const p.tol).div_const (1 - p.tol)
  have hraw : ∀ x, swRaw p x = (1 - x ^ (a + 1)) / (1 - x ^ (b + 1)) := by
    intro x; rw [swRaw_eq, ha, hb]
  have hpos' : 0 < ((1 - l ^ (a + 1)) / (1 - l ^ (b + 1)) - p.tol) / (1 - p.tol) := by
    rw [← hraw]; exact hpos
  -- near `l` the shifted function stays positive, so `swValue` is that function there
  have heq : swValue p =ᶠ[nhds l] fun x => ((1 - x ^ (a + 1)) / (1 - x ^ (b + 1)) - p.tol) / (1 - p.tol) := by
    filter_upwards [hf.continuousAt.eventually (lt_mem_nhds hpos')] with x hx
    simp only [swValue, hraw, lit_zero, lit_one]
    rw [if_neg (not_lt.mpr hx.le)]
  refine (hf.congr_of_eventuallyEq heq).congr_deriv ?_
  simp only [swDeriv, hraw, lit_zero, lit_one, ipow_eq, ha, hb]
  rw [if_neg (not_lt.mpr hpos'.le)]
  ring

/-- one pair of atoms: moving the atom of group 2 along `d` changes the pair's contribution at the rate given by the
    pair gradient -/
theorem coordNum_pair_grad (p : SwParams ℝ) (a b : Atom ℝ) (d : V3 ℝ) (hr0 : p.r0 ≠ 0)
    (hl : 0 < reducedDist2 p a b) (h1 : reducedDist2 p a b ≠ 1) (hen : 2 ≤ p.en) (hed : 2 ≤ p.ed) (htol : p.tol < 1)
    (hpos : 0 < (swRaw p (reducedDist2 p a b) - p.tol) / (1 - p.tol)) :
    HasDerivAt (fun t : ℝ => swValue p (reducedDist2 p a { b with r := V3.add b.r (V3.smul t d) }))
      (V3.dot (coordNumPair p a b) d) 0 := by
  have _ := hr0  -- not needed: `x / 0 = 0`
  have h := HasDerivAt.comp_of_eq (0 : ℝ) (sw_deriv p _ hl h1 hen hed htol hpos) (hasDerivAt_reducedDist2 p a b d)
    (by rw [atom_move_zero])
  exact h.congr_deriv (by rw [coordNumPair, V3.dot_smul_left, lit_two]; ring)

/-- the whole variable: the gradient assigned to atom `k` of group 2 is the derivative of the coordination number with
    respect to its position, when every pair it takes part in is away from the two non-smooth points -/
theorem coordNum_grad_group2 (g1 g2 : AGroup ℝ) (p : SwParams ℝ) (hr0 : p.r0 ≠ 0) (hen : 2 ≤ p.en) (hed : 2 ≤ p.ed)
    (htol : p.tol < 1) (k : Nat) (hk : k < g2.length) (d : V3 ℝ)
    (hsmooth : ∀ a ∈ g1, 0 < reducedDist2 p a (g2.getD k ⟨0, V3.zero⟩) ∧ reducedDist2 p a (g2.getD k ⟨0, V3.zero⟩) ≠ 1 ∧
      0 < (swRaw p (reducedDist2 p a (g2.getD k ⟨0, V3.zero⟩)) - p.tol) / (1 - p.tol)) :
    HasDerivAt (fun t : ℝ => coordNum g1 (move g2 k (V3.smul t d)) p)
      (V3.dot ((coordNumGrad g1 g2 p).2.getD k V3.zero) d) 0 := by
  rw [getD_of_lt _ _ _ hk] at hsmooth
  have h := hasDerivAt_pairs_sum g1 g2 (fun a b => swValue p (reducedDist2 p a b)) k hk d
    (fun a => V3.dot (coordNumPair p a (g2[k]'hk)) d)
    (fun a ha => coordNum_pair_grad p a (g2[k]'hk) d hr0 (hsmooth a ha).1 (hsmooth a ha).2.1 hen hed htol
      (hsmooth a ha).2.2)
  simp only [coordNum_eq]
  exact h.congr_deriv (by rw [coordNumGrad, getD_map_of_lt _ g2 _ _ hk, dot_foldl_vadd])

/-- distanceInv: the gradient assigned to atom `k` of group 2 is the derivative of the generalised mean of the inverse
    distances -/
theorem distanceInv_grad_group2 (g1 g2 : AGroup ℝ) (n : Nat) (hn : 2 ≤ n) (heven : n % 2 = 0) (h1 : g1 ≠ [])
    (hne : ∀ a ∈ g1, ∀ b ∈ g2, V3.norm2 (V3.sub b.r a.r) ≠ 0) (k : Nat) (hk : k < g2.length) (d : V3 ℝ) :
    HasDerivAt (fun t : ℝ => distanceInv g1 (move g2 k (V3.smul t d)) n)
      (V3.dot ((distanceInvGrad g1 g2 n).2.getD k V3.zero) d) 0 := by
  have _ := heven  -- not needed
  have h2 : g2 ≠ [] := by
    intro h; rw [h] at hk; simp at hk
  have hnR : (n : ℝ) ≠ 0 := Nat.cast_ne_zero.mpr (Nat.ne_of_gt (lt_of_lt_of_le two_pos hn))
  have hN : (0 : ℝ) < ((g1.length * g2.length : Nat) : ℝ) :=
    Nat.cast_pos.mpr (Nat.mul_pos (List.length_pos_iff.mpr h1) (List.length_pos_iff.mpr h2))
  have hS := hasDerivAt_pairs_sum g1 g2 (fun a b => invPow (V3.norm2 (V3.sub b.r a.r)) (n / 2)) k hk d
    (fun a => -((n / 2 : Nat) : ℝ) * invPow (V3.norm2 (V3.sub (g2[k]'hk).r a.r)) (n / 2)
        / V3.norm2 (V3.sub (g2[k]'hk).r a.r) * 2 * V3.dot (V3.sub (g2[k]'hk).r a.r) d)
    (fun a ha => hasDerivAt_invPow_pair (n / 2) a (g2[k]'hk) d (hne a ha _ (List.getElem_mem hk)))
  have hY : 0 < (g1.map fun a => (g2.map fun b => invPow (V3.norm2 (V3.sub b.r a.r)) (n / 2)).sum).sum
      * (1 / ((g1.length * g2.length : Nat) : ℝ)) := by
    refine mul_pos (sum_sum_pos _ h1 h2 fun a ha b hb => ?_) (one_div_pos.mpr hN)
    rw [invPow_eq]
    exact one_div_pos.mpr (pow_pos (lt_of_le_of_ne (V3.norm2_nonneg _) (Ne.symm (hne a ha b hb))) _)
  have h := (hS.mul_const (1 / ((g1.length * g2.length : Nat) : ℝ))).rpow_const (p := -1 / (n : ℝ))
    (Or.inl (by rw [move_zero]; exact hY.ne'))
  rw [move_zero] at h
  simp only [distanceInv_eq, length_move]
  refine h.congr_deriv ?_
  -- `x^(n+1)` of the model is the `y^(-1/n - 1)` of the chain rule
  have hx : (distanceInv g1 g2 n) ^ (n + 1)
      = ((g1.map fun a => (g2.map fun b => invPow (V3.norm2 (V3.sub b.r a.r)) (n / 2)).sum).sum
          * (1 / ((g1.length * g2.length : Nat) : ℝ))) ^ (-1 / (n : ℝ) - 1) := by
    rw [distanceInv_eq, ← Real.rpow_natCast, ← Real.rpow_mul hY.le]
    congr 1
    push_cast
    field_simp
    ring
  rw [distanceInvGrad, getD_map_of_lt _ g2 _ _ hk, V3.dot_smul_left, dot_foldl_vadd, ipow_eq, hx, lit_one]
  generalize ((g1.map fun a => (g2.map fun b => invPow (V3.norm2 (V3.sub b.r a.r)) (n / 2)).sum).sum
    * (1 / ((g1.length * g2.length : Nat) : ℝ))) ^ (-1 / (n : ℝ) - 1) = P
  have hterm : (g1.map fun a => V3.dot (distanceInvPair n a (g2[k]'hk)) d)
      = g1.map fun a => -((n / 2 : Nat) : ℝ) * invPow (V3.norm2 (V3.sub (g2[k]'hk).r a.r)) (n / 2)
        / V3.norm2 (V3.sub (g2[k]'hk).r a.r) * 2 * V3.dot (V3.sub (g2[k]'hk).r a.r) d := by
    refine List.map_congr_left fun a _ => ?_
    simp only [distanceInvPair, V3.dot_smul_left, lit_one, lit_two]
    ring
  rw [hterm]
  ring

/-! ## non-vacuity: a group that satisfies `MassOk` -/
example : MassOk [({ m := 12, r := ⟨0, 0, 0⟩ } : Atom ℝ), { m := 1, r := ⟨1, 0, 0⟩ }] := by
  refine ⟨by simp, ?_⟩
  intro a ha; simp at ha; rcases ha with rfl | rfl <;> norm_num

end Cv.C01
