import Lean.Meta.Tactic.Simp.RegisterCommand

/-- The model's literals `0.0`, `1.0`, `2.0`, `0.5` as Mathlib numerals at `ℝ` (`Base.lean`); other literals go by `norm_num`. -/
register_simp_attr lit

/-- `Cv.Geom.V3` operations and `vsum` component by component: `ext <;> simp only [v3] <;> ring` proves a vector identity. -/
register_simp_attr v3
