import CvProps.C08Lemmas
import CvProps.C08b
/-!
# C08 — bias contributions superpose; multiple-time-step scaling conserves impulse

Property theorems about the step machine `CvModel/Module.lean` (`modStep`) at `α := ℝ`.
-/
open Cv

namespace Cv.C08

def withBiases (m : Sys ℝ) (bs : List (String × Bias ℝ)) : Sys ℝ := { m with biases := bs }

/-- run a history of engine inputs, collecting the outputs -/
noncomputable def runSys (m : Sys ℝ) : List (StepIn ℝ) → Sys ℝ × List (StepOut ℝ)
  | [] => (m, [])
  | i :: is =>
    let (m1, o) := modStep m i
    let (m2, os) := runSys m1 is
    (m2, o :: os)

/-- a bias that never looks at total forces -/
def ignoresTotalForce : Bias ℝ → Bool
  | .abf _ _ _ => false
  | _ => true

theorem runSys_eq_runL (h : List (StepIn ℝ)) : ∀ m : Sys ℝ, runSys m h = runL m h := by
  induction h with
  | nil => intro m; rfl
  | cons i is ih => intro m; simp only [runSys, runL, ih]

theorem ignoresTotalForce_eq (b : Bias ℝ) : ignoresTotalForce b = noTF b := by
  cases b <;> rfl

/-! ## what does not reach the engine -/

theorem awake_iff (c : Clock) (n : Int) : awake c n = true ↔ (n ≤ 1 ∨ Int.tmod c.it n = 0) := by
  simp [awake]

theorem asleep_contributes_nothing (m : Sys ℝ) (i : StepIn ℝ) (name : String) (b : Bias ℝ)
    (hb : m.biases = [(name, b)]) (hs : awake (m.clock.tick i.cont) (tsfOf m name) = false) :
    (modStep m i).1.biases = [(name, b)] ∧ (modStep m i).2.energy = 0 ∧
    ∀ a, lookupF (modStep m i).2.atomF a = 0 := by
  have hx := updOne_asleep m (m.clock.tick i.cont) (cvsAt m i) name b hs
  exact ⟨by rw [modStep_biases, updAt, hb, List.map_singleton, hx]; rfl,
    single_contributes_nothing hb hx (energyOf_zero _ _ _) kvSum_nil⟩

theorem histogram_contributes_nothing (m : Sys ℝ) (i : StepIn ℝ) (name : String) (idx : List Nat) (g : GridDef ℝ)
    (sz : Bool) (d : List ℝ) (hb : m.biases = [(name, .hist idx g sz d)]) :
    (modStep m i).2.energy = 0 ∧ ∀ a, lookupF (modStep m i).2.atomF a = 0 := by
  obtain ⟨b', hx⟩ := updOne_hist m (m.clock.tick i.cont) (cvsAt m i) name idx g sz d
  exact single_contributes_nothing hb hx (energyOf_zero _ _ _) kvSum_nil

/-- an ABF bias with `applyBias off` (declared non-biasing) keeps collecting samples but contributes neither energy
    nor force to what the engine receives -/
theorem applyBias_off_contributes_nothing (m : Sys ℝ) (i : StepIn ℝ) (name : String) (idx : List Nat) (p : AbfParams ℝ)
    (s : AbfState ℝ) (hb : m.biases = [(name, .abf idx p s)]) (hoff : p.applyBias = false) :
    (modStep m i).2.energy = 0 ∧ ∀ a, lookupF (modStep m i).2.atomF a = 0 := by
  obtain ⟨s', e, kvs, hx, hk⟩ := updOne_abf_off m (m.clock.tick i.cont) (cvsAt m i) name idx p s hoff
  exact single_contributes_nothing hb hx (by simp [energyOf, Bias.applies, hoff]) hk

/-! ## biases add up: one step, whole histories -/

/-- one step: energy and the force on every atom for the bias list `A ++ B` are the sums of those for `A` and for `B`
    evaluated from the same state, and each bias evolves exactly as it does in its own subset -/
theorem superpose_step (m : Sys ℝ) (A B : List (String × Bias ℝ)) (i : StepIn ℝ) :
    let rAB := modStep (withBiases m (A ++ B)) i
    let rA := modStep (withBiases m A) i
    let rB := modStep (withBiases m B) i
    rAB.2.energy = rA.2.energy + rB.2.energy ∧
    (∀ a, lookupF rAB.2.atomF a = lookupF rA.2.atomF a + lookupF rB.2.atomF a) ∧
    rAB.1.biases = rA.1.biases ++ rB.1.biases := by
  -- `updOne` reads `tfSame` and the factors, not the list of biases
  have hu : ∀ X nb, updOne (withBiases m (A ++ B)) (m.clock.tick i.cont) (cvsAt m i) nb =
      updOne (withBiases m X) (m.clock.tick i.cont) (cvsAt m i) nb :=
    fun X nb => updOne_sys (withBiases m (A ++ B)) (withBiases m X) rfl rfl _ _ nb
  exact step_add (withBiases m (A ++ B)) (withBiases m A) (withBiases m B) i rfl rfl rfl
    (fun nb _ => hu A nb) (fun nb _ => hu B nb)

/-- whole histories: when no bias reads total forces, running `A ++ B` gives at every step the sum of running `A`
    and running `B` separately on the same trajectory -/
theorem superpose_run (m : Sys ℝ) (A B : List (String × Bias ℝ)) (h : List (StepIn ℝ))
    (hA : ∀ nb ∈ A, ignoresTotalForce nb.2 = true) (hB : ∀ nb ∈ B, ignoresTotalForce nb.2 = true) :
    let oAB := (runSys (withBiases m (A ++ B)) h).2
    let oA := (runSys (withBiases m A) h).2
    let oB := (runSys (withBiases m B) h).2
    oAB.length = h.length ∧ oA.length = h.length ∧ oB.length = h.length ∧
    ∀ t (ht : t < h.length),
      (oAB.getD t ⟨0, []⟩).energy = (oA.getD t ⟨0, []⟩).energy + (oB.getD t ⟨0, []⟩).energy ∧
      ∀ a, lookupF (oAB.getD t ⟨0, []⟩).atomF a =
           lookupF (oA.getD t ⟨0, []⟩).atomF a + lookupF (oB.getD t ⟨0, []⟩).atomF a := by
  simp only [runSys_eq_runL, runL_length, true_and]
  exact run_add h (withBiases m (A ++ B)) (withBiases m A) (withBiases m B) rfl ⟨rfl, rfl, rfl⟩ ⟨rfl, rfl, rfl⟩
    (fun nb hnb => by rw [← ignoresTotalForce_eq]; exact hA nb hnb)
    (fun nb hnb => by rw [← ignoresTotalForce_eq]; exact hB nb hnb)

/-! ## time-step factor: n times the instantaneous force on awake steps -/

/-- an awake bias with factor `n` applies `n` times the force it computes (a fixed harmonic restraint on one variable
    carried by atom `v.atom`) -/
theorem awake_scales_force (m : Sys ℝ) (i : StepIn ℝ) (name : String) (k c : ℝ) (v : CvSt ℝ)
    (hcv : m.cvs = [v]) (hb : m.biases = [(name, .harm [0] k [c])])
    (ha : awake (m.clock.tick i.cont) (tsfOf m name) = true) :
    let v' := cvUpdate m (m.clock.tick i.cont) i v
    lookupF (modStep m i).2.atomF v.atom =
      ((tsfOf m name : Int) : ℝ) * (-0.5 * k / (v.width * v.width) * dist2SGrad v.per v'.x c) := by
  intro v'
  rw [(harm_step m i name k c v hcv hb).1, if_pos ha]
  simp only [hF, v', cvUpdate_x]

/-- impulse conservation: over `n` consecutive ordinary steps starting at a multiple of `n`, with the variable held
    at the same value, a bias with factor `n` delivers the same total impulse as the same bias with factor 1 -/
theorem impulse_conserved (m : Sys ℝ) (name : String) (k c : ℝ) (v : CvSt ℝ) (n : Nat) (hn : 1 ≤ n)
    (z tfz : Nat → ℝ) (hcv : m.cvs = [v]) (hb : m.biases = [(name, .harm [0] k [c])])
    (hclock : m.clock.first = false ∧ Int.tmod (m.clock.it + 1) n = 0)
    (htsf : m.tsf = [(name, (n : Int))]) :
    let steps : List (StepIn ℝ) := List.replicate n { z := z, tfz := tfz, cont := false }
    let oN := (runSys m steps).2
    let o1 := (runSys { m with tsf := [] } steps).2
    (oN.map fun o => lookupF o.atomF v.atom).sum = (o1.map fun o => lookupF o.atomF v.atom).sum := by
  intro steps oN o1
  simp only [oN, o1, steps, runSys_eq_runL]
  have hN : tsfOf m name = n := by simp [tsfOf, htsf]
  rw [harm_run name k c v _ rfl n n m v hcv rfl hb hclock.1 hN,
    harm_run name k c v _ rfl 1 n { m with tsf := [] } v hcv rfl hb hclock.1 rfl]
  exact (sum_awake_window hn hclock.2 _).trans (by simp [awake_one])

/-! ## non-vacuity -/

example : awake { it := 6, itRestart := 0, first := false, cont := false } 3 = true ∧
          awake { it := 7, itRestart := 0, first := false, cont := false } 3 = false := by
  constructor <;> decide

end Cv.C08
