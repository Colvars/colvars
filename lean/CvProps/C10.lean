import CvProps.C10Lemmas
/-!
# C10 — accepted parameter values never lead to a trapping division, and rejected objects leave the module as it was

Property theorems about `CvModel/Validate.lean` (core Lean).  A `none` stands for a division or remainder by zero,
which terminates the host process.
-/
open Cv Cv.Validate

namespace Cv.C10

theorem safeMod_isSome (a b : Int) (h : b ≠ 0) : (safeMod a b).isSome = true := by
  rw [safeMod_of_ne h]; rfl

/-- metadynamics: whatever newHillFrequency and gridsUpdateFrequency are (zero and negative included), no step traps -/
theorem meta_never_traps (newHillFreq gridsFreq it : Int) (canAcc : Bool) :
    let (hd, gf) := metaInit newHillFreq gridsFreq
    (metaDeposit hd newHillFreq it canAcc).isSome = true ∧ (metaGridUpdate gf it).isSome = true :=
  ⟨metaDeposit_isSome _ _ _ _, metaGridUpdate_isSome _ _⟩

/-- with a zero or negative newHillFrequency no hill is ever deposited -/
theorem meta_zero_freq_no_hills (newHillFreq gridsFreq it : Int) (canAcc : Bool) (h : newHillFreq ≤ 0) :
    metaDeposit (metaInit newHillFreq gridsFreq).1 newHillFreq it canAcc = some false := by
  have : ¬ newHillFreq > 0 := by omega
  simp [metaInit, metaDeposit, this]

/-- analysis: once accepted, none of the remainders by a stride traps and the deviation's divisor is positive -/
theorem analysis_accepted_safe (runAve : Bool) (ral ras : Nat) (corr : Bool) (al as_ : Nat) (restartFreq stepRel : Int)
    (h : analysisValidate runAve ral ras corr al as_ = .ok) :
    (∀ r ∈ analysisRemainders restartFreq stepRel runAve ras corr as_, r.isSome = true) ∧
    (runAve = true → 0 < runAveDivisor ral) := by
  unfold analysisValidate at h
  split at h
  · cases h
  · next h1 =>
    split at h
    · cases h
    · next h2 =>
      have hra : runAve = true → 2 ≤ ral ∧ ras ≠ 0 := fun e => by simpa [e] using h1
      have hco : corr = true → al ≠ 0 ∧ as_ ≠ 0 := fun e => by simpa [e] using h2
      have hdiv : runAve = true → 0 < runAveDivisor ral := fun e => by
        have := (hra e).1
        unfold runAveDivisor
        omega
      refine ⟨fun r hr => ?_, hdiv⟩
      simp only [analysisRemainders, List.mem_append] at hr
      rcases hr with hr | hr
      · cases runAve
        · simp at hr
        · have h0 : (ras : Int) ≠ 0 := by
            have := (hra rfl).2
            omega
          simp only [↓reduceIte, List.mem_cons, List.not_mem_nil, or_false] at hr
          rcases hr with rfl | rfl <;> exact safeMod_isSome _ _ h0
      · cases corr
        · simp at hr
        · have h0 : (as_ : Int) ≠ 0 := by
            have := (hco rfl).2
            omega
          simp only [↓reduceIte, List.mem_cons, List.not_mem_nil, or_false] at hr
          subst hr
          exact safeMod_isSome _ _ h0

/-- the stride-zero and too-short-window configurations are rejected (they are exactly the ones that would trap) -/
theorem analysis_rejects_zero_stride (ral : Nat) (corr : Bool) (al as_ : Nat) :
    analysisValidate true ral 0 corr al as_ = .rejected := by
  simp [analysisValidate]

/-- ABF: once accepted the ramp's denominator `fullSamples - minSamples` is positive and maxForce has one entry per variable -/
theorem abf_accepted_safe (full mn : Int) (nv : Nat) (mf : Option (List Int)) (f m : Int)
    (h : abfValidate full mn nv mf = (.ok, f, m)) :
    0 < f - m ∧ (∀ l, mf = some l → l.length = nv) := by
  unfold abfValidate at h
  -- the kept pair of sample counts is returned; acceptance compares its members
  generalize (if full ≤ 1 then ((1 : Int), (0 : Int)) else (full, mn)) = fm at h
  obtain ⟨f', m'⟩ := fm
  dsimp only at h
  split at h
  · cases h
  · split at h
    · split at h
      · cases h
      · next l _ hne =>
        cases h
        exact ⟨by omega, fun l' hl' => by cases hl'; simpa using hne⟩
    · cases h
      exact ⟨by omega, nofun⟩

/-- multiple-walker metadynamics: with an accepted `replicaUpdateFrequency` the per-step test is defined, and the number of silent
    periods is defined whatever `newHillFrequency` is — zero (no hills of one's own, only reading the others') included. -/
theorem meta_replicas_never_trap (u : Int) (f un : Nat) (it : Int) (h : metaReplicaValidate u = .ok) :
    (metaReplicaTest u it).isSome = true ∧ (metaReplicaFlush un f).isSome = true := by
  refine ⟨?_, ?_⟩
  · unfold metaReplicaValidate at h
    by_cases h0 : u = 0
    · simp [h0] at h
    · exact safeMod_isSome _ _ h0
  · unfold metaReplicaFlush
    by_cases hf : f > 0
    · have : f ≠ 0 := by omega
      simp [hf, this]
    · simp [hf]

/-- whatever `historyFreq` and `outputFreq` are (either may be zero), validating the pair evaluates no remainder by zero; an accepted
    pair is either "no history" or a history frequency that is a multiple of a non-zero output frequency; and every later
    "write the history now?" test is defined. -/
theorem abf_history_pair_safe (hf of_ : Int) :
    (∀ r ∈ (abfHistoryValidate hf of_).2, r.isSome = true) ∧
    ((abfHistoryValidate hf of_).1 = .ok → hf = 0 ∨ (of_ ≠ 0 ∧ Int.tmod hf of_ = 0)) ∧
    (∀ it, (abfHistoryWrite hf it).isSome = true) := by
  rw [← and_assoc]
  refine ⟨?_, metaGridUpdate_isSome hf⟩  -- `abfHistoryWrite` is `metaGridUpdate` by `rfl`
  unfold abfHistoryValidate
  by_cases h1 : hf = 0
  · exact ⟨by simp [h1], fun _ => Or.inl h1⟩
  · by_cases h2 : of_ = 0
    · simp [h1, h2]
    · refine ⟨by simp [h1, h2, safeMod_isSome], ?_⟩
      by_cases h3 : Int.tmod hf of_ = 0
      · exact fun _ => Or.inr ⟨h2, h3⟩
      · simp [h1, h2, safeMod_of_ne, h3]

/-- a history frequency with output switched off is rejected, not divided by -/
theorem abf_history_rejects_zero_output (hf : Int) (h : hf ≠ 0) : abfHistoryValidate hf 0 = (.rejected, []) := by
  simp [abfHistoryValidate, h]

/-- the shared-ABF frequency: no remainder by zero, and an accepted non-zero one divides the output frequency -/
theorem abf_shared_pair_safe (sf of_ : Int) :
    (∀ r ∈ (abfSharedValidate sf of_).2, r.isSome = true) ∧
    ((abfSharedValidate sf of_).1 = .ok → sf = 0 ∨ Int.tmod of_ sf = 0) := by
  unfold abfSharedValidate
  by_cases h1 : sf = 0
  · exact ⟨by simp [h1], fun _ => Or.inl h1⟩
  · refine ⟨by simp [h1, safeMod_isSome], ?_⟩
    by_cases h3 : Int.tmod of_ sf = 0
    · exact fun _ => Or.inr h3
    · simp [h1, safeMod_of_ne, h3]

/-- moving restraints: once accepted, the divisor targetNumSteps of the schedules is non-zero -/
theorem moving_accepted_safe (n it first : Int) (h : movingValidate true n = .ok) : (safeMod (it - first) n).isSome = true := by
  unfold movingValidate at h
  by_cases h0 : n = 0
  · simp [h0] at h
  · exact safeMod_isSome _ _ h0

/-- output schedules: a zero restart or trajectory frequency switches the output off instead of dividing by it -/
theorem module_schedules_safe (restartFreq trajFreq it : Int) :
    ∀ r ∈ moduleSchedules restartFreq trajFreq it, r.isSome = true := by
  intro r hr
  simp only [moduleSchedules, List.mem_append] at hr
  rcases hr with hr | hr
  · by_cases h : restartFreq = 0
    · simp [h] at hr
    · simp only [ne_eq, h, not_false_eq_true, ↓reduceIte, List.mem_cons, List.mem_nil_iff, or_false] at hr
      subst hr; exact safeMod_isSome _ _ h
  · by_cases h : trajFreq = 0
    · simp [h] at hr
    · have h2 : trajFreq * 1000 ≠ 0 := by omega
      simp only [ne_eq, h, not_false_eq_true, ↓reduceIte, List.mem_cons, List.mem_nil_iff, or_false] at hr
      rcases hr with rfl | rfl
      · exact safeMod_isSome _ _ h
      · exact safeMod_isSome _ _ h2

/-- a grid is allocated only with positive sizes -/
theorem grid_setup_positive (nx : List Int) (mult n : Nat) (h : gridSetup nx mult = some n) : ∀ k ∈ nx, 0 < k := by
  unfold gridSetup at h
  split at h
  · rename_i hall
    intro k hk
    have := List.all_eq_true.mp hall k hk
    simpa using this
  · simp at h

/-- a rejected object leaves the list of objects exactly as it was; an accepted one is appended -/
theorem rollback {β : Type} (objs : List β) (new : β) :
    addObject objs new .rejected = objs ∧ addObject objs new .ok = objs ++ [new] := ⟨rfl, rfl⟩

/-! ## non-vacuity -/

example : (abfHistoryValidate 10 5).1 = .ok ∧ (abfHistoryValidate 5 10).1 = .rejected ∧ (abfHistoryValidate 5 0).1 = .rejected ∧
    (abfHistoryValidate 0 0).1 = .ok := by decide
example : analysisValidate true 4 1 true 4 1 = .ok := by decide
example : abfValidate 4 2 1 (some [10]) = (.ok, 4, 2) := by decide

end Cv.C10
