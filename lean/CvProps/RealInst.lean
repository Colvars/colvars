import CvModel
import CvProps.Attr
import Mathlib.Analysis.SpecialFunctions.Sqrt
import Mathlib.Analysis.SpecialFunctions.Exp
import Mathlib.Analysis.SpecialFunctions.Log.Basic
import Mathlib.Analysis.SpecialFunctions.Pow.Real
import Mathlib.Analysis.SpecialFunctions.Trigonometric.Inverse
import Mathlib.Analysis.SpecialFunctions.Trigonometric.Arctan
import Mathlib.Analysis.SpecialFunctions.Complex.Arg
import Mathlib.Tactic

/-! The real-number instance of the scalar class: every field is Mathlib's own instance, so that after
unfolding the model definitions the goals are ordinary Mathlib goals. -/
namespace Cv

noncomputable instance : Prim ℝ where
  sqrt := Real.sqrt
  exp := Real.exp
  log := Real.log
  acos := Real.arccos
  sin := Real.sin
  cos := Real.cos
  atan2 := fun y x => Complex.arg ⟨x, y⟩      -- C `atan2(y, x)`: the argument of `x + i y`
  pow := fun x y => x ^ y
  floorI := fun x => ⌊x⌋

/-- the models branch on `<` and `≤`, which are decidable on `ℝ` only classically -/
noncomputable instance : Sc ℝ :=
  { decLt := fun _ _ => Classical.propDecidable _, decLe := fun _ _ => Classical.propDecidable _ }

@[simp] theorem prim_sqrt (x : ℝ) : Prim.sqrt x = Real.sqrt x := rfl
@[simp] theorem prim_exp (x : ℝ) : Prim.exp x = Real.exp x := rfl
@[simp] theorem prim_log (x : ℝ) : Prim.log x = Real.log x := rfl
@[simp] theorem prim_acos (x : ℝ) : Prim.acos x = Real.arccos x := rfl
@[simp] theorem prim_sin (x : ℝ) : Prim.sin x = Real.sin x := rfl
@[simp] theorem prim_cos (x : ℝ) : Prim.cos x = Real.cos x := rfl
@[simp] theorem prim_pow (x y : ℝ) : Prim.pow x y = x ^ y := rfl
@[simp] theorem prim_floorI (x : ℝ) : Prim.floorI x = ⌊x⌋ := rfl
@[simp] theorem floorS_real (x : ℝ) : floorS x = (⌊x⌋ : ℝ) := rfl
@[simp] theorem sq_real (x : ℝ) : sq x = x * x := rfl

end Cv
