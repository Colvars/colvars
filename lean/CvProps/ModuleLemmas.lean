import CvProps.Base
/-!
# The step machine `CvModel/Module.lean` at `ℝ`: what the properties about it share (C03, C08)

`modStep` in pieces; what a step hands out depends on the instance through `cvsAt`, `updAt` and the variables up to `norm`.
Namespaces: `Cv` (lists, clock, lookups), `Cv.C08` (the pieces of `modStep`, `norm`; C03 uses them under these names).
-/
open Cv

namespace Cv

/-! ## lists by index -/

theorem map_eq_map_of_getElem? {α β γ : Type} {f : α → γ} {g : β → γ} {l : List α} {l' : List β}
    (hlen : l.length = l'.length) (h : ∀ (k : Nat) a b, l[k]? = some a → l'[k]? = some b → f a = g b) :
    l.map f = l'.map g := by
  apply List.ext_getElem (by simpa using hlen)
  intro k h1 h2
  simp only [List.getElem_map]
  exact h k _ _ (List.getElem?_eq_getElem _) (List.getElem?_eq_getElem _)

theorem eq_of_map_eq {α β γ : Type} {f : α → γ} {g : β → γ} {l : List α} {l' : List β} (h : l.map f = l'.map g)
    {k : Nat} {a : α} {b : β} (ha : l[k]? = some a) (hb : l'[k]? = some b) : f a = g b := by
  have := congrArg (·[k]?) h
  simpa [ha, hb] using this

theorem mem_zip_of_getElem? {α β : Type} {l : List α} {l' : List β} {k : Nat} {a : α} {b : β}
    (ha : l[k]? = some a) (hb : l'[k]? = some b) : (a, b) ∈ l.zip l' :=
  List.mem_iff_getElem?.2 ⟨k, List.getElem?_zip_eq_some.2 ⟨ha, hb⟩⟩

theorem find_of_mem_nodup {κ β : Type} [BEq κ] [LawfulBEq κ] :
    ∀ (l : List (κ × β)), (l.map (·.1)).Nodup → ∀ x ∈ l, l.find? (·.1 == x.1) = some x
  | [], _, x, hx => by simp at hx
  | a :: l, hnd, x, hx => by
    simp only [List.map_cons, List.nodup_cons] at hnd
    simp only [List.mem_cons] at hx
    rcases hx with rfl | hx
    · simp
    · have hne : a.1 ≠ x.1 := by
        intro he
        exact hnd.1 (he ▸ List.mem_map_of_mem hx)
      rw [List.find?_cons_of_neg (by simpa using hne)]
      exact find_of_mem_nodup l hnd.2 x hx

theorem tick_running (c : Clock) (h : c.first = false) :
    c.tick false = { c with it := c.it + 1, cont := false } := by
  simp [Clock.tick, h]

/-- propositional form: `C08.awake_iff` -/
theorem awake_def (c : Clock) (n : Int) : awake c n = (decide (n ≤ 1) || decide (Int.tmod c.it n = 0)) := rfl

theorem awake_one (c : Clock) : awake c 1 = true := by simp [awake]

theorem lookupF_nil (a : Nat) : lookupF ([] : List (Nat × ℝ)) a = 0 := by
  simp only [lookupF, List.lookup_nil, Option.getD_none]
  exact lit_zero

theorem lookupF_cons (k : Nat) (v : ℝ) (l : List (Nat × ℝ)) (a : Nat) :
    lookupF ((k, v) :: l) a = if k = a then v else lookupF l a := by
  unfold lookupF
  rw [List.lookup_cons]
  by_cases h : k = a
  · subst h; simp
  · have : (a == k) = false := by simp [beq_eq_false_iff_ne, Ne.symm h]
    simp [this, h]

theorem lookupF_addAssoc (l : List (Nat × ℝ)) (k : Nat) (v : ℝ) (a : Nat) :
    lookupF (addAssoc l k v) a = lookupF l a + (if k = a then v else 0) := by
  induction l with
  | nil => simp [addAssoc, lookupF_cons, lookupF_nil]
  | cons kv r ih =>
    obtain ⟨k', v'⟩ := kv
    unfold addAssoc
    by_cases h : k' = k
    · subst h
      simp only [if_true, lookupF_cons]
      by_cases h2 : k' = a <;> simp [h2]
    · simp only [h, if_false, lookupF_cons, ih]
      by_cases h2 : k' = a
      · have : ¬ k = a := fun hk => h (h2.trans hk.symm)
        simp [h2, this]
      · simp [h2]

theorem lookupF_foldl_addAssoc {β : Type} (key : β → Nat) (val : β → ℝ) (l : List β) (acc : List (Nat × ℝ)) (a : Nat) :
    lookupF (l.foldl (fun acc x => addAssoc acc (key x) (val x)) acc) a =
      lookupF acc a + (l.map fun x => if key x = a then val x else 0).sum := by
  induction l generalizing acc with
  | nil => simp
  | cons x r ih => rw [List.foldl_cons, ih, lookupF_addAssoc, List.map_cons, List.sum_cons, add_assoc]

end Cv

namespace Cv.C08

/-! ## the pieces of `modStep`

The `let`s of its body, in order: `updOne` per bias, `fbOf` (forces on the variables, summed over the biases), `setF` (each
variable gets its sum), `atomFOf` (forces on the atoms), `endStep` (the applied force is remembered where it will be
subtracted). -/

/-- what a step computes for one bias: its name, its new state, its energy, its forces on the variables (variable index, force) -/
abbrev Upd := String × Bias ℝ × ℝ × List (Nat × ℝ)

noncomputable def updOne (m : Sys ℝ) (c : Clock) (cvs : List (CvSt ℝ)) (nb : String × Bias ℝ) : Upd :=
  let n := tsfOf m nb.1
  if awake c n then
    let r := biasUpdate m c cvs nb.2
    (nb.1, (r.1, r.2.1, r.2.2.map fun (kv : Nat × ℝ) => (kv.1, (n : ℝ) * kv.2)))
  else (nb.1, (nb.2, 0.0, []))

noncomputable def fbOf (upd : List Upd) : List (Nat × ℝ) :=
  upd.foldl (fun acc x => x.2.2.2.foldl (fun a (kv : Nat × ℝ) => addAssoc a kv.1 kv.2) acc) []

noncomputable def setF (fb : List (Nat × ℝ)) (cvs : List (CvSt ℝ)) : List (CvSt ℝ) :=
  (List.range cvs.length).zip cvs |>.map fun (iv : Nat × CvSt ℝ) => { iv.2 with f := lookupF fb iv.1 }

noncomputable def atomFOf (cvs : List (CvSt ℝ)) : List (Nat × ℝ) :=
  cvs.foldl (fun acc v => addAssoc acc v.atom v.f) []

def endStep (cvs : List (CvSt ℝ)) : List (CvSt ℝ) :=
  cvs.map fun v => if v.subtract then { v with fOld := v.f } else v

theorem modStep_eq (m : Sys ℝ) (i : StepIn ℝ) :
    modStep m i =
      (let c := m.clock.tick i.cont
       let cvs := m.cvs.map (cvUpdate m c i)
       let upd := m.biases.map (updOne m c cvs)
       let cvs' := setF (fbOf upd) cvs
       ({ m with clock := c, cvs := endStep cvs', biases := upd.map fun x => (x.1, x.2.1),
                 lastApplied := atomFOf cvs' },
        { energy := sumL (upd.map fun x => if x.2.1.applies then x.2.2.1 else 0.0), atomF := atomFOf cvs' })) := rfl

/-- the variables as the biases see them at this step -/
noncomputable def cvsAt (m : Sys ℝ) (i : StepIn ℝ) : List (CvSt ℝ) :=
  m.cvs.map (cvUpdate m (m.clock.tick i.cont) i)

/-- the per-bias results at this step -/
noncomputable def updAt (m : Sys ℝ) (i : StepIn ℝ) : List Upd :=
  m.biases.map (updOne m (m.clock.tick i.cont) (cvsAt m i))

theorem modStep_eq_at (m : Sys ℝ) (i : StepIn ℝ) : modStep m i =
    ({ m with clock := m.clock.tick i.cont, cvs := endStep (setF (fbOf (updAt m i)) (cvsAt m i)),
              biases := (updAt m i).map fun x => (x.1, x.2.1),
              lastApplied := atomFOf (setF (fbOf (updAt m i)) (cvsAt m i)) },
     { energy := sumL ((updAt m i).map fun x => if x.2.1.applies then x.2.2.1 else 0.0),
       atomF := atomFOf (setF (fbOf (updAt m i)) (cvsAt m i)) }) :=
  modStep_eq m i

theorem modStep_atomF (m : Sys ℝ) (i : StepIn ℝ) :
    (modStep m i).2.atomF = atomFOf (setF (fbOf (updAt m i)) (cvsAt m i)) := rfl

theorem modStep_biases (m : Sys ℝ) (i : StepIn ℝ) :
    (modStep m i).1.biases = (updAt m i).map fun x => (x.1, x.2.1) := rfl

theorem modStep_cvs (m : Sys ℝ) (i : StepIn ℝ) :
    (modStep m i).1.cvs = endStep (setF (fbOf (updAt m i)) (cvsAt m i)) := rfl

theorem modStep_clock (m : Sys ℝ) (i : StepIn ℝ) : (modStep m i).1.clock = m.clock.tick i.cont := rfl
theorem modStep_tsf (m : Sys ℝ) (i : StepIn ℝ) : (modStep m i).1.tsf = m.tsf := rfl

theorem updOne_fst (m : Sys ℝ) (c : Clock) (cvs : List (CvSt ℝ)) (nb : String × Bias ℝ) :
    (updOne m c cvs nb).1 = nb.1 := by
  simp only [updOne]; split <;> rfl

-- `name`, `b` separate in the next two: a hypothesis on `tsfOf m name` does not determine a pair `nb` (slow to fail)

theorem updOne_awake (m : Sys ℝ) (c : Clock) (cvs : List (CvSt ℝ)) (name : String) (b : Bias ℝ)
    (h : awake c (tsfOf m name) = true) :
    updOne m c cvs (name, b) = (name, ((biasUpdate m c cvs b).1, (biasUpdate m c cvs b).2.1,
      (biasUpdate m c cvs b).2.2.map fun (kv : Nat × ℝ) => (kv.1, ((tsfOf m name : Int) : ℝ) * kv.2))) := by
  simp only [updOne, h, if_true]

theorem updOne_asleep (m : Sys ℝ) (c : Clock) (cvs : List (CvSt ℝ)) (name : String) (b : Bias ℝ)
    (h : awake c (tsfOf m name) = false) : updOne m c cvs (name, b) = (name, (b, 0.0, [])) := by
  simp only [updOne, h]; rfl

/-- same clock and variables, another instance (its list of biases is not read).  The other two congruences: up to `norm`
    (`biasUpdate_congr`, `C08.updOne_congr`), up to the clock's run bookkeeping (`C03L.biasUpdate_congr_clock`) -/
theorem biasUpdate_sys (m m' : Sys ℝ) (htf : m.tfSame = m'.tfSame) (c : Clock) (cvs : List (CvSt ℝ)) (b : Bias ℝ) :
    biasUpdate m c cvs b = biasUpdate m' c cvs b := by
  cases b <;> simp only [biasUpdate, htf]

theorem updOne_sys (m m' : Sys ℝ) (htf : m.tfSame = m'.tfSame) (htsf : m.tsf = m'.tsf) (c : Clock)
    (cvs : List (CvSt ℝ)) (nb : String × Bias ℝ) : updOne m c cvs nb = updOne m' c cvs nb := by
  unfold updOne tsfOf
  rw [htsf, biasUpdate_sys m m' htf]

/-! ## variables up to the force fields -/

def norm (v : CvSt ℝ) : CvSt ℝ := { v with ft := 0, fOld := 0, f := 0 }

/-- the value of a variable at this step -/
noncomputable def xOf (i : StepIn ℝ) (v : CvSt ℝ) : ℝ :=
  match v.per with
  | none => i.z v.atom
  | some p => wrapS p v.wrapC (i.z v.atom)

noncomputable def normX (i : StepIn ℝ) (w : CvSt ℝ) : CvSt ℝ := { w with x := xOf i w }

theorem cvUpdate_atom (m : Sys ℝ) (c : Clock) (i : StepIn ℝ) (v : CvSt ℝ) : (cvUpdate m c i v).atom = v.atom := rfl
theorem cvUpdate_per (m : Sys ℝ) (c : Clock) (i : StepIn ℝ) (v : CvSt ℝ) : (cvUpdate m c i v).per = v.per := rfl
theorem cvUpdate_width (m : Sys ℝ) (c : Clock) (i : StepIn ℝ) (v : CvSt ℝ) : (cvUpdate m c i v).width = v.width := rfl
theorem cvUpdate_wrapC (m : Sys ℝ) (c : Clock) (i : StepIn ℝ) (v : CvSt ℝ) : (cvUpdate m c i v).wrapC = v.wrapC := rfl

theorem cvUpdate_ft_zero (m : Sys ℝ) (c : Clock) (i : StepIn ℝ) {v : CvSt ℝ} (h : v.tfCalc = false) (h0 : v.ft = 0) :
    (cvUpdate m c i v).ft = 0 := by
  simp [cvUpdate, h, h0, lit_zero]

theorem norm_cvUpdate (m : Sys ℝ) (c : Clock) (i : StepIn ℝ) (v : CvSt ℝ) :
    norm (cvUpdate m c i v) = normX i (norm v) := by
  obtain ⟨_, per, _, _, _, _, _, _, _, _⟩ := v
  cases per <;> rfl

theorem cvUpdate_x (m : Sys ℝ) (c : Clock) (i : StepIn ℝ) (v : CvSt ℝ) : (cvUpdate m c i v).x = xOf i v :=
  congrArg CvSt.x (norm_cvUpdate m c i v)

theorem cvsAt_norm (m : Sys ℝ) (i : StepIn ℝ) : (cvsAt m i).map norm = (m.cvs.map norm).map (normX i) := by
  unfold cvsAt
  simp only [List.map_map]
  exact List.map_congr_left fun v _ => norm_cvUpdate _ _ _ _

theorem cvsAt_length (m : Sys ℝ) (i : StepIn ℝ) : (cvsAt m i).length = m.cvs.length := by
  simp [cvsAt]

theorem setF_norm (fb : List (Nat × ℝ)) (cvs : List (CvSt ℝ)) : (setF fb cvs).map norm = cvs.map norm := by
  unfold setF
  rw [List.map_map]
  have : (norm ∘ fun (iv : Nat × CvSt ℝ) => ({ iv.2 with f := lookupF fb iv.1 } : CvSt ℝ)) = norm ∘ Prod.snd := by
    funext iv; rfl
  rw [this, ← List.map_map, List.map_snd_zip]
  simp

theorem endStep_norm (cvs : List (CvSt ℝ)) : (endStep cvs).map norm = cvs.map norm := by
  unfold endStep
  rw [List.map_map]
  refine List.map_congr_left fun v _ => ?_
  simp only [Function.comp]
  split_ifs <;> rfl

theorem modStep_cvs_norm (m : Sys ℝ) (i : StepIn ℝ) :
    (modStep m i).1.cvs.map norm = (m.cvs.map norm).map (normX i) := by
  rw [modStep_cvs, endStep_norm, setF_norm, cvsAt_norm]

theorem normX_idem (i : StepIn ℝ) (w : CvSt ℝ) : normX i (normX i w) = normX i w := rfl

theorem norm_norm (w : CvSt ℝ) : norm (norm w) = norm w := rfl

theorem norm_normX (i : StepIn ℝ) (w : CvSt ℝ) : norm (normX i (norm w)) = normX i (norm w) := rfl

theorem xOf_norm (i : StepIn ℝ) (v : CvSt ℝ) : xOf i (norm v) = xOf i v := rfl

/-! ### biases other than ABF see `norm` only -/

/-- a bias that never reads total forces; `C08.ignoresTotalForce` is the same (`ignoresTotalForce_eq`) -/
def noTF : Bias ℝ → Bool
  | .abf _ _ _ => false
  | _ => true

theorem getCvs_map (f : CvSt ℝ → CvSt ℝ) (cvs : List (CvSt ℝ)) (idx : List Nat) :
    getCvs (cvs.map f) idx = (getCvs cvs idx).map f := by
  unfold getCvs
  rw [List.map_filterMap]
  simp [List.getElem?_map]

theorem map_x_norm (l : List (CvSt ℝ)) : (l.map norm).map (·.x) = l.map (·.x) := by
  rw [List.map_map]; rfl

theorem harmEnergy_norm (vs : List (CvSt ℝ)) (k : ℝ) (cs : List ℝ) :
    harmEnergy (vs.map norm) k cs = harmEnergy vs k cs := by
  unfold harmEnergy
  rw [List.zipWith_map_left]
  rfl

theorem harmForces_norm (vs : List (CvSt ℝ)) (k : ℝ) (cs : List ℝ) :
    harmForces (vs.map norm) k cs = harmForces vs k cs := by
  unfold harmForces
  rw [List.zipWith_map_left]
  rfl

theorem biasUpdate_norm (m m' : Sys ℝ) (c : Clock) (cvs : List (CvSt ℝ)) (b : Bias ℝ) (h : noTF b = true) :
    biasUpdate m c cvs b = biasUpdate m' c (cvs.map norm) b := by
  cases b with
  | abf idx p s => simp [noTF] at h
  | hist idx g sz d => simp only [biasUpdate, getCvs_map, map_x_norm]
  | harm idx k cs => simp only [biasUpdate, getCvs_map, harmEnergy_norm, harmForces_norm]
  | restr idx p s => simp only [biasUpdate, getCvs_map, map_x_norm]
  | mtd idx p s => simp only [biasUpdate, getCvs_map, map_x_norm]

theorem biasUpdate_congr (m m' : Sys ℝ) (c : Clock) (cvs cvs' : List (CvSt ℝ)) (b : Bias ℝ) (h : noTF b = true)
    (hc : cvs.map norm = cvs'.map norm) : biasUpdate m c cvs b = biasUpdate m' c cvs' b := by
  rw [biasUpdate_norm m m' c cvs b h, hc, ← biasUpdate_norm m' m' c cvs' b h]

/-! ### atomic forces: through the atoms only -/

theorem atomFOf_setF (fb : List (Nat × ℝ)) (cvs : List (CvSt ℝ)) : atomFOf (setF fb cvs) =
    ((List.range cvs.length).zip (cvs.map (·.atom))).foldl
      (fun acc (ia : Nat × Nat) => addAssoc acc ia.2 (lookupF fb ia.1)) [] := by
  unfold atomFOf setF
  rw [List.foldl_map, List.zip_map_right, List.foldl_map]
  rfl

theorem atoms_of_norm_eq {cvs cvs' : List (CvSt ℝ)} (h : cvs.map norm = cvs'.map norm) :
    cvs.map (·.atom) = cvs'.map (·.atom) := by
  have := congrArg (List.map (·.atom)) h
  rwa [List.map_map, List.map_map] at this

theorem atomFOf_setF_congr (fb : List (Nat × ℝ)) {cvs cvs' : List (CvSt ℝ)} (h : cvs.map norm = cvs'.map norm) :
    atomFOf (setF fb cvs) = atomFOf (setF fb cvs') := by
  have hl : cvs.length = cvs'.length := by simpa using congrArg List.length h
  rw [atomFOf_setF, atomFOf_setF, atoms_of_norm_eq h, hl]

/-! ### what a step hands out -/

theorem modStep_out_congr {a b : Sys ℝ} {i : StepIn ℝ} (hu : updAt a i = updAt b i)
    (hn : (cvsAt a i).map norm = (cvsAt b i).map norm) :
    (modStep a i).2 = (modStep b i).2 ∧ (modStep a i).1.biases = (modStep b i).1.biases ∧
    (modStep a i).1.lastApplied = (modStep b i).1.lastApplied := by
  rw [modStep_eq_at a, modStep_eq_at b, hu, atomFOf_setF_congr _ hn]
  exact ⟨rfl, rfl, rfl⟩

/-! ### force fields after the step -/

theorem endStep_setF_f (fb : List (Nat × ℝ)) (cvs : List (CvSt ℝ)) :
    (endStep (setF fb cvs)).map (·.f) = (List.range cvs.length).map (lookupF fb) := by
  unfold endStep setF
  rw [List.map_map, List.map_map]
  conv_rhs => rw [← List.map_fst_zip (l₁ := List.range cvs.length) (l₂ := cvs) (by simp), List.map_map]
  refine List.map_congr_left fun iv _ => ?_
  simp only [Function.comp]
  split <;> rfl

theorem mem_endStep_setF {fb : List (Nat × ℝ)} {cvs : List (CvSt ℝ)} {v : CvSt ℝ} (h : v ∈ endStep (setF fb cvs)) :
    ∃ w ∈ cvs, ∃ F : ℝ, v = if w.subtract then { w with f := F, fOld := F } else { w with f := F } := by
  unfold endStep setF at h
  obtain ⟨_, hw, rfl⟩ := List.mem_map.1 h
  obtain ⟨iv, hiv, rfl⟩ := List.mem_map.1 hw
  exact ⟨iv.2, (List.of_mem_zip hiv).2, lookupF fb iv.1, rfl⟩

end Cv.C08
