import CvProps.C14Lemmas
import CvProps.C14b
/-!
# C14 — multiple-walker sharing combines every walker's data exactly once

Two halves, audited together.  Here, on `CvModel/Shared.lean`: the shared-ABF grids as an event machine, and
`Shared.Mirror` (reading one hills file that only grows).  In `C14b.lean`, on `CvModel/Walkers.lean`: the whole file protocol
of metadynamics walkers.  `Mirror.read` and `Walkers.Reader.sync` model the same `read_replica_files`: extend `Reader` for
anything involving the state file or a hills file that is started again.
-/
open Cv Cv.Shared

namespace Cv.C14

/-- pointwise sum of two tallies.  Trap: `vadd` resolves to `Cv.vadd` (Value.lean) here, `vaddI` to `Cv.Shared.vaddI`;
    same `zipWith` as `Cv.Shared.vadd`. -/
noncomputable def tadd (a b : List Int × List ℝ) : List Int × List ℝ := (vaddI a.1 b.1, vadd a.2 b.2)

/-! ## shared ABF -/

/-- **union, each once**: after any history without restarts that ends with an exchange, the grids every walker uses
    hold exactly the samples recorded by all walkers, each counted once -/
theorem exchange_union (n nb : Nat) (evs : List (Ev ℝ)) (hok : ∀ e ∈ evs, EvOk n nb e)
    (hnr : ∀ e ∈ evs, isRestart e = false) :
    ∀ w ∈ run (initAll n nb) (evs ++ [.exchange]), (w.samples, w.grad) = tally nb (samplesOf none evs) := by
  intro w hw
  obtain ⟨k, hk⟩ := List.mem_iff_getElem?.1 hw
  have h := ((C14L.inv_after_exchange hok hnr).wk k w hk).cur
  rw [Pi.zero_apply, add_zero] at h
  exact h.ext (.tally (C14L.samples_bins hok none))

/-- **each walker's own contribution stays recoverable**: after the same histories the local grids of walker `k` hold
    exactly what walker `k` sampled itself -/
theorem own_contribution (n nb : Nat) (evs : List (Ev ℝ)) (hok : ∀ e ∈ evs, EvOk n nb e)
    (hnr : ∀ e ∈ evs, isRestart e = false) (k : Nat) (hk : k < n) :
    ∀ w, (run (initAll n nb) (evs ++ [.exchange]))[k]? = some w →
      (w.locS, w.locG) = tally nb (samplesOf (some k) evs) := by
  have _ := hk  -- not needed: no walker at `k ≥ n`
  intro w hw
  exact ((C14L.inv_after_exchange hok hnr).wk k w hw).loc.ext (.tally (C14L.samples_bins hok (some k)))

/-- between exchanges a walker uses the union as of the last exchange plus what it has sampled itself since -/
theorem between_exchanges (n nb : Nat) (evs₁ evs₂ : List (Ev ℝ)) (hok₁ : ∀ e ∈ evs₁, EvOk n nb e)
    (hok₂ : ∀ e ∈ evs₂, EvOk n nb e) (hnr : ∀ e ∈ evs₁, isRestart e = false)
    (hs₂ : ∀ e ∈ evs₂, isSample e = true) (k : Nat) (hk : k < n) :
    ∀ w, (run (initAll n nb) (evs₁ ++ [.exchange] ++ evs₂))[k]? = some w →
      (w.samples, w.grad) = tadd (tally nb (samplesOf none evs₁)) (tally nb (samplesOf (some k) evs₂)) := by
  have _ := hk  -- not needed: no walker at `k ≥ n`
  intro w hw
  rw [C14L.run_append] at hw
  have h := ((C14L.inv_run_samples evs₂ (C14L.inv_after_exchange hok₁ hnr) hok₂ hs₂).wk k w hw).cur
  rw [Pi.zero_apply, zero_add] at h
  -- `Gr.add` has `Cv.Shared.vadd`, `tadd` has `Cv.vadd`: the same term unfolded
  exact h.ext ((C14L.Gr.tally (C14L.samples_bins hok₁ none)).add (.tally (C14L.samples_bins hok₂ (some k))))

/-- the order in which the walkers' steps are interleaved between two exchanges does not matter -/
theorem interleaving_irrelevant (n nb : Nat) (pre evs evs' : List (Ev ℝ)) (hp : evs.Perm evs')
    (hokp : ∀ e ∈ pre, EvOk n nb e) (hok : ∀ e ∈ evs, EvOk n nb e)
    (hnrp : ∀ e ∈ pre, isRestart e = false) (hs : ∀ e ∈ evs, isSample e = true) :
    run (initAll n nb) (pre ++ evs ++ [.exchange]) = run (initAll n nb) (pre ++ evs' ++ [.exchange]) := by
  have _ := And.intro hokp (And.intro hok hnrp)  -- not needed: samples commute in every state
  rw [C14L.run_append, C14L.run_append, C14L.run_append _ _ [.exchange], C14L.run_append _ pre,
    C14L.run_perm _ hp hs]

/-- a walker resumed with nothing pending (its grids equal the snapshot of the last exchange) is unchanged -/
theorem restart_nothing_pending (w : Walker ℝ) (hS : w.lastS = w.samples) (hG : w.lastG = w.grad) : w.restart = w := by
  cases w
  simp only [Walker.restart] at *
  subst hS hG
  rfl

/-- hence a stop / resume immediately after an exchange changes nothing, whatever follows -/
theorem restart_at_boundary_harmless (ws : List (Walker ℝ)) (k : Nat) (rest : List (Ev ℝ)) :
    run ws ([.exchange, .restart k] ++ rest) = run ws ([.exchange] ++ rest) := by
  rw [C14L.run_append, C14L.run_append ws [.exchange]]
  congr 1
  show apply (apply ws .exchange) (.restart k) = apply ws .exchange
  exact C14L.exchange_restart ws k

/-- the boundary is sharp: with a sample pending at the stop, the resumed walker's own contribution misses it
    (the behaviour of the code, recorded as a known finding) -/
theorem restart_pending_loses :
    ∃ (evs : List (Ev ℝ)) (w : Walker ℝ),
      (run (initAll 2 1) evs)[0]? = some w ∧ (w.locS, w.locG) ≠ tally 1 (samplesOf (some 0) evs) := by
  refine ⟨[.sample 0 0 1, .restart 0, .exchange], _, rfl, ?_⟩
  intro h
  have := congrArg Prod.fst h
  simp [Walker.init, Walker.sample, Walker.restart, Walker.deltaS, vaddI, vsubI, tally, samplesOf] at this

/-! ## multiple-walker metadynamics: the mirror of a peer's hills file -/

/-- successive reads of a growing file: at each read the file and the number of complete records in it -/
def reads {H : Type} (m : Mirror H) (l : List (List H × Nat)) : Mirror H :=
  l.foldl (fun m fc => m.read fc.1 fc.2) m

/-- the file only grows: each version is a prefix of the next -/
def Growing {H : Type} : List (List H × Nat) → Prop
  | [] => True
  | [_] => True
  | a :: b :: r => a.1 <+: b.1 ∧ Growing (b :: r)

private theorem reads_snoc {H : Type} (m : Mirror H) (l : List (List H × Nat)) (x : List H × Nat) :
    reads m (l ++ [x]) = (reads m l).read x.1 x.2 := by
  simp [reads, List.foldl_append]

private theorem growing_snoc {H : Type} (l : List (List H × Nat)) (a b : List H × Nat)
    (hg : Growing (l ++ [a] ++ [b])) : Growing (l ++ [a]) ∧ a.1 <+: b.1 := by
  induction l with
  | nil => exact ⟨trivial, hg.1⟩
  | cons x l ih =>
    cases l with
    | nil => exact ⟨⟨hg.1, trivial⟩, hg.2.1⟩
    | cons y l =>
      have := ih hg.2
      exact ⟨⟨hg.1, this.1⟩, this.2⟩

/-- **each hill once, in order, nothing invented**: whatever the read schedule and however many records were complete
    at each read, the mirror holds exactly the first `pos` hills of the peer's file -/
theorem mirror_is_prefix {H : Type} (l : List (List H × Nat)) (last : List H × Nat) (hg : Growing (l ++ [last])) :
    let m := reads { pos := 0, hills := [] } (l ++ [last])
    m.hills = last.1.take m.pos ∧ m.pos ≤ last.1.length := by
  induction l using List.reverseRecOn generalizing last with
  | nil => exact C14L.read_inv _ [] last.1 last.2 rfl (Nat.le_refl 0) List.nil_prefix
  | append_singleton l prev ih =>
    have hg' := growing_snoc l prev last hg
    have := ih prev hg'.1
    rw [reads_snoc]
    exact C14L.read_inv _ prev.1 last.1 last.2 this.1 this.2 hg'.2

/-- after a read that finds the file complete the mirror holds the whole file -/
theorem mirror_complete {H : Type} (l : List (List H × Nat)) (file : List H) (hg : Growing (l ++ [(file, file.length)])) :
    (reads { pos := 0, hills := [] } (l ++ [(file, file.length)])).hills = file := by
  have h := mirror_is_prefix l (file, file.length) hg
  have hge : file.length ≤ (reads { pos := 0, hills := [] } (l ++ [(file, file.length)])).pos := by
    rw [reads_snoc]
    simpa using C14L.read_pos_ge (reads { pos := 0, hills := [] } l) file file.length
  rw [h.1, List.take_of_length_le hge]

/-- a partially written record is never consumed: nothing beyond the complete records enters the mirror -/
theorem mirror_ignores_partial {H : Type} (m : Mirror H) (file : List H) (complete : Nat) :
    (m.read file complete).pos ≤ max m.pos (min complete file.length) ∧
    (m.read file complete).hills.length = m.hills.length + ((m.read file complete).pos - m.pos) := by
  rcases Nat.lt_or_ge m.pos (min complete file.length) with h | h
  · rw [C14L.read_of_lt h]
    refine ⟨Nat.le_max_right .., ?_⟩
    rw [List.length_append, List.length_take, List.length_drop,
      Nat.min_eq_left (Nat.sub_le_sub_right (Nat.min_le_right ..) _)]
  · rw [C14L.read_of_le h]
    exact ⟨Nat.le_max_left .., by rw [Nat.sub_self]; rfl⟩

/-! ## non-vacuity -/
example : EvOk 2 3 (.sample 1 2 0.5) := by unfold EvOk; omega

end Cv.C14
