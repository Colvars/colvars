import CvModel.MemStream
import CvModel.FileSys
/-!
# C11 — lemmas about `CvModel/MemStream.lean` and `CvModel/FileSys.lean` (namespace `Cv.C11`): what writers and readers
do on well-formed states; what a complete run of each file protocol leaves on disk.
-/
open Cv Cv.MS

namespace Cv.C11

theorem le64_length (n : Nat) : (le64 n).length = 8 := by
  simp [le64]

/-- little-endian digits `s, s+1, …, s+k-1` of `n`, read back -/
theorem fromLe_digits (n : Nat) : ∀ k s : Nat,
    fromLe ((List.range' s k).map fun i => UInt8.ofNat ((n / 256 ^ i) % 256)) = n / 256 ^ s % 256 ^ k
  | 0, s => by simp [fromLe, Nat.mod_one]
  | k + 1, s => by
    have ih := fromLe_digits n k (s + 1)
    simp only [fromLe] at ih ⊢
    rw [List.range'_succ, List.map_cons, List.foldr_cons, ih, Nat.pow_succ 256 k, Nat.mul_comm (256 ^ k),
      Nat.mod_mul, Nat.pow_succ, Nat.div_div_eq_div_mul]
    simp

theorem fromLe_le64 (n : Nat) (h : n < two64) : fromLe (le64 n) = n := by
  rw [le64, List.range_eq_range', fromLe_digits, Nat.pow_zero, Nat.div_one]
  exact Nat.mod_eq_of_lt h

/-! ## writing into the zero-filled tail -/

theorem writeAt_tail (pre bytes : List UInt8) (k p : Nat) (hp : p = pre.length) :
    writeAt (pre ++ List.replicate k 0) p bytes = pre ++ bytes ++ List.replicate (k - bytes.length) 0 := by
  subst hp
  simp [writeAt, List.drop_append]

theorem writeVec_eq (s : St) (n : Nat) (bytes : List UInt8) (hgood : s.state = 0)
    (hlen : s.len = s.buf.length) (h : s.buf.length + 8 + bytes.length ≤ s.maxLen) :
    writeVec s n bytes =
      { s with buf := s.buf ++ le64 n ++ bytes, len := s.buf.length + 8 + bytes.length } := by
  have h' : s.buf.length + (8 + bytes.length) ≤ s.maxLen := by omega
  simp only [writeVec, writeVecAdv, expand, h', if_true, good, hgood]
  simp only [beq_self_eq_true, if_true]
  rw [writeAt_tail s.buf (le64 n) _ _ hlen, le64_length]
  rw [writeAt_tail (s.buf ++ le64 n) bytes _ _ (by simp [le64_length, hlen])]
  simp [hlen]

theorem writeObj_eq (s : St) (bytes : List UInt8) (hgood : s.state = 0)
    (hlen : s.len = s.buf.length) (h : s.buf.length + bytes.length ≤ s.maxLen) :
    writeObj s bytes = { s with buf := s.buf ++ bytes, len := s.buf.length + bytes.length } := by
  simp only [writeObj, expand, h, if_true, good, hgood]
  simp only [beq_self_eq_true, if_true]
  rw [writeAt_tail s.buf bytes _ _ hlen]
  simp [hlen]

theorem remaining_eq (s : St) (hr : s.rpos ≤ s.len) (h64 : s.len < two64) :
    remaining s = s.len - s.rpos := by
  rw [remaining, Nat.mod_eq_of_lt (Nat.lt_of_le_of_lt hr h64), Nat.sub_add_comm hr, Nat.add_mod_right,
    Nat.mod_eq_of_lt (Nat.lt_of_le_of_lt (Nat.sub_le _ _) h64)]


/-! ## the readers, cursor inside the data -/

theorem readObj_spec (s : St) (size : Nat) (hlen : s.len ≤ s.buf.length)
    (hr : s.rpos ≤ s.len) (h64 : s.len < two64) :
    readObj s size =
      if size ≤ s.len - s.rpos then
        .ok { s with rpos := s.rpos + size, state := 0 } ((s.buf.drop s.rpos).take size)
      else .fail { s with state := s.state ||| 2 } := by
  have r1 : remaining { s with state := s.state ||| 2 } = s.len - s.rpos := remaining_eq _ hr h64
  simp only [readObj, hasRemaining, r1, decide_eq_true_eq, slice]
  split
  · rw [if_pos (by omega)]
  · rfl

theorem readVec_spec (s : St) (esz : Nat) (he : 0 < esz) (hlen : s.len ≤ s.buf.length)
    (hr : s.rpos ≤ s.len) (h64 : s.len < two64) :
    readVec s esz =
      if 8 ≤ s.len - s.rpos then
        if fromLe ((s.buf.drop s.rpos).take 8) * esz ≤ s.len - (s.rpos + 8) then
          .ok { s with rpos := s.rpos + 8 + fromLe ((s.buf.drop s.rpos).take 8) * esz, state := 0 }
            (fromLe ((s.buf.drop s.rpos).take 8),
              (s.buf.drop (s.rpos + 8)).take (fromLe ((s.buf.drop s.rpos).take 8) * esz))
        else .fail { s with rpos := s.rpos + 8, state := (s.state ||| 2) ||| 4 }
      else .fail { s with state := s.state ||| 2 } := by
  have r1 : remaining { s with state := s.state ||| 2 } = s.len - s.rpos := remaining_eq _ hr h64
  by_cases h8 : 8 ≤ s.len - s.rpos
  · have r2 : remaining { s with state := s.state ||| 2, rpos := s.rpos + 8 } = s.len - (s.rpos + 8) :=
      remaining_eq _ (by show s.rpos + 8 ≤ s.len; omega) h64
    have hb : s.rpos + 8 ≤ s.buf.length := by omega
    -- `Nat.le_div_iff_mul_le he`: the code's overflow guard `n ≤ remaining / esz` becomes `n * esz ≤ remaining`
    simp only [readVec, hasRemaining, r1, r2, decide_eq_true_eq, slice, h8, hb, if_true,
      Nat.le_div_iff_mul_le he]
    by_cases hn : fromLe ((s.buf.drop s.rpos).take 8) * esz ≤ s.len - (s.rpos + 8)
    · have hm : fromLe ((s.buf.drop s.rpos).take 8) * esz % two64 =
          fromLe ((s.buf.drop s.rpos).take 8) * esz := Nat.mod_eq_of_lt (by omega)
      have hb2 : s.rpos + 8 + fromLe ((s.buf.drop s.rpos).take 8) * esz ≤ s.buf.length := by omega
      simp only [hm, hn, and_self, if_true, hb2]
    · simp only [hn, false_and, if_false]
  · simp only [readVec, hasRemaining, r1, decide_eq_true_eq, h8, if_false]


theorem readVec_serialised (pre bytes : List UInt8) (esz n : Nat) (he : 0 < esz)
    (hb : bytes.length = n * esz) (h64 : pre.length + 8 + bytes.length < two64) :
    readVec { (ofBytes (pre ++ le64 n ++ bytes)) with rpos := pre.length } esz =
      .ok { (ofBytes (pre ++ le64 n ++ bytes)) with rpos := pre.length + 8 + bytes.length } (n, bytes) := by
  have hn : n < two64 := by
    have : n * 1 ≤ n * esz := Nat.mul_le_mul_left n he
    omega
  have hL : (pre ++ le64 n ++ bytes).length = pre.length + 8 + bytes.length := by
    simp [le64_length]; omega
  rw [readVec_spec _ _ he (by simp [ofBytes]) (by simp [ofBytes, le64_length])
    (by simp only [ofBytes, hL]; exact h64)]
  have d1 : (pre ++ le64 n ++ bytes).drop pre.length = le64 n ++ bytes := by simp
  have d2 : (pre ++ le64 n ++ bytes).drop (pre.length + 8) = bytes :=
    List.drop_left' (by simp [le64_length])
  have t1 : (le64 n ++ bytes).take 8 = le64 n := List.take_left' (le64_length n)
  simp only [ofBytes, hL, d1, d2, t1, fromLe_le64 n hn, ← hb, List.take_length]
  rw [if_pos (by omega), if_pos (by omega)]

/-! ## the replacement protocol -/
open Cv.FS

theorem run_append (d : Disk) (l1 l2 : List Op) : run d (l1 ++ l2) = run (run d l1) l2 :=
  List.foldl_append

theorem run_writes (x : Bytes) (o : Option Bytes) (chunks : List Bytes) :
    run { f := some x, old := o } (chunks.map .write) = { f := some (x ++ chunks.flatten), old := o } := by
  induction chunks generalizing x with
  | nil => simp [run]
  | cons c cs ih => simpa [run, step] using ih (x ++ c)

theorem replaceOps_eq (chunks : List Bytes) :
    replaceOps chunks = .backup :: .openTrunc :: (chunks.map .write ++ [.close]) := rfl

theorem run_cons (d : Disk) (op : Op) (l : List Op) : run d (op :: l) = run (step d op) l := rfl

theorem step_openTrunc (d : Disk) : step d .openTrunc = { f := some [], old := d.old } := rfl

theorem run_replaceOps (d : Disk) (chunks : List Bytes) :
    run d (replaceOps chunks) = { f := some chunks.flatten, old := (step d .backup).old } := by
  rw [replaceOps_eq, run_cons, run_cons, step_openTrunc, run_append, run_writes]; rfl

theorem step_old (d : Disk) (op : Op) (h : op ≠ .backup) : (step d op).old = d.old := by
  cases op with
  | backup => exact absurd rfl h
  | _ => rfl

theorem run_old (d : Disk) (l : List Op) (h : ∀ op ∈ l, op ≠ .backup) : (run d l).old = d.old :=
  List.foldlRecOn (motive := fun d' => d'.old = d.old) l step rfl
    fun d' ih op hop => (step_old d' op (h op hop)).trans ih

theorem crashAt_old (d : Disk) (ops : List Op) (k j : Nat) :
    (crashAt d ops k j).old = (run d (ops.take k)).old := by
  unfold crashAt
  split <;> rfl

theorem crashAt_replace_old (d : Disk) (b : Bytes) (chunks : List Bytes) (hf : d.f = some b) (k j : Nat) :
    (crashAt d (replaceOps chunks) (k + 1) j).old = some b := by
  have hno : ∀ op ∈ (Op.openTrunc :: (chunks.map Op.write ++ [Op.close])).take k, op ≠ .backup := by
    intro op hop
    have := List.mem_of_mem_take hop
    simp only [List.mem_cons, List.mem_append, List.mem_map, List.mem_nil_iff, or_false] at this
    rcases this with rfl | ⟨c, _, rfl⟩ | rfl <;> nofun
  -- backup first; nothing later touches `.old`
  rw [crashAt_old, replaceOps_eq, List.take_succ_cons, run_cons, run_old _ _ hno, step, hf]

/-! ## the publication protocol -/

theorem prun_writes (x : Bytes) (o : Option Bytes) (chunks : List Bytes) :
    prun { pub := o, tmp := some x } (chunks.map .writeTmp) = { pub := o, tmp := some (x ++ chunks.flatten) } := by
  induction chunks generalizing x with
  | nil => simp [prun]
  | cons c cs ih => simpa [prun, pstep] using ih (x ++ c)

theorem publishOps_eq (chunks : List Bytes) :
    publishOps chunks = .removeTmp :: .openTmp :: (chunks.map .writeTmp ++ [.closeTmp, .publish]) := rfl

theorem prun_cons (d : PDisk) (op : POp) (l : List POp) : prun d (op :: l) = prun (pstep d op) l := rfl

theorem pstep_openTmp (d : PDisk) : pstep d .openTmp = { pub := d.pub, tmp := some [] } := rfl

theorem pstep_writeTmp (d : PDisk) (b : Bytes) : pstep d (.writeTmp b) = { pub := d.pub, tmp := some (d.tmp.getD [] ++ b) } := rfl

theorem prun_publishOps (d : PDisk) (chunks : List Bytes) :
    prun d (publishOps chunks) = { pub := some chunks.flatten, tmp := none } := by
  have happ (d : PDisk) (a b : List POp) : prun d (a ++ b) = prun (prun d a) b := List.foldl_append
  rw [publishOps_eq, prun_cons, prun_cons, pstep_openTmp, happ, prun_writes]; rfl

theorem pstep_pub (d : PDisk) (op : POp) (h : op ≠ .publish) : (pstep d op).pub = d.pub := by
  cases op with
  | publish => exact absurd rfl h
  | _ => rfl

theorem prun_pub (d : PDisk) (l : List POp) (h : ∀ op ∈ l, op ≠ .publish) : (prun d l).pub = d.pub :=
  List.foldlRecOn (motive := fun d' => d'.pub = d.pub) l pstep rfl
    fun d' ih op hop => (pstep_pub d' op (h op hop)).trans ih

theorem pcrashAt_pub (d : PDisk) (ops : List POp) (k j : Nat) :
    (pcrashAt d ops k j).pub = (prun d (ops.take k)).pub := by
  unfold pcrashAt
  split <;> rfl

end Cv.C11
