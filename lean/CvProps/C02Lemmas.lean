import CvProps.GeomLemmas
/-! Helper lemmas for C02: `Cv.C02.Isometry` with its lemmas in its own namespace (`hR.sub`, `hR.norm`, …). -/
open Cv Cv.Geom Cv.C02L

namespace Cv.C02

/-- a linear map of 3-space that preserves the scalar product -/
structure Isometry (R : V3 ℝ → V3 ℝ) : Prop where
  add : ∀ a b, R (V3.add a b) = V3.add (R a) (R b)
  smul : ∀ k a, R (V3.smul k a) = V3.smul k (R a)
  dot : ∀ a b, V3.dot (R a) (R b) = V3.dot a b

namespace Isometry
variable {R : V3 ℝ → V3 ℝ} (hR : Isometry R)
include hR

theorem zero : R V3.zero = V3.zero := by
  have h : (V3.zero : V3 ℝ) = V3.smul 0 V3.zero := by ext <;> simp
  rw [h, hR.smul]
  ext <;> simp

theorem sub (a b : V3 ℝ) : R (V3.sub a b) = V3.sub (R a) (R b) := by
  have e : ∀ a b : V3 ℝ, V3.sub a b = V3.add a (V3.smul (-1) b) := fun a b => by ext <;> simp only [v3] <;> ring
  rw [e, hR.add, hR.smul, ← e]

theorem norm2 (a : V3 ℝ) : V3.norm2 (R a) = V3.norm2 a := hR.dot a a

theorem norm (a : V3 ℝ) : V3.norm (R a) = V3.norm a := congrArg Real.sqrt (hR.dot a a)

theorem unit (a : V3 ℝ) : V3.unit (R a) = R (V3.unit a) := by
  rw [V3.unit_def, V3.unit_def, hR.norm]
  split_ifs
  · rw [hR.smul]
  · rfl

theorem vsum {β : Type} (f : β → V3 ℝ) (l : List β) : C07.vsum (l.map fun a => R (f a)) = R (C07.vsum (l.map f)) := by
  induction l with
  | nil =>
    have h : C07.vsum [] = V3.zero := by ext <;> simp
    rw [List.map_nil, List.map_nil, h, hR.zero]
  | cons a t ih => rw [List.map_cons, List.map_cons, vsum_cons, vsum_cons, hR.add, ih]

end Isometry

end Cv.C02
