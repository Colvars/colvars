import CvModel.Script
import CvModel.Objects
/-!
# C20 — lemmas about the dispatcher `CvModel/Script.lean` and deletion in `CvModel/Objects.lean` (namespace `Cv.C20`):
every non-error outcome comes out of `checked`; names as numerals and as bytes for the kernel checks of the command table;
the destructor's loop in closed form.
-/
open Cv

namespace Cv.C20

section dispatch
open Cv.Script

theorem dispatch_run {t : Table} {cvs bs args : List String} {o : Outcome} (ho : isError o = false)
    (h : dispatch t cvs bs args = o) : ∃ fn k, checked t fn k args.length = o := by
  subst h
  let P (o : Outcome) : Prop := isError o = false → ∃ fn k, checked t fn k args.length = o
  have ite {c : Prop} [Decidable c] {a b : Outcome} (ha : P a) (hb : P b) : P (if c then a else b) := by
    split <;> assumption
  have chk {fn : String} {k : ObjKind} : P (checked t fn k args.length) := fun _ => ⟨_, _, rfl⟩
  revert ho
  show P _
  unfold dispatch
  -- the nesting is the branch shape of `dispatch` and follows any change there: `nofun` at an error leaf
  -- (`isError e = false` is absurd), `chk` at a call of `checked`
  exact ite nofun (ite (ite nofun (ite nofun chk)) (ite (ite nofun (ite nofun chk)) chk))

/-- the bytes of a name as one numeral: the kernel compares numerals in one step, `String` literals by re-encoding both -/
def nameKey (s : String) : Nat := s.toByteArray.data.toList.foldl (fun n b => n * 256 + b.toNat) 0

/-- for table checks: the bytes of a literal are far cheaper in the kernel than its characters -/
theorem isPrefixOf_toList_of_bytes {p s : String}
    (h : p.toByteArray.data.toList.isPrefixOf s.toByteArray.data.toList = true) :
    p.toList.isPrefixOf s.toList = true := by
  obtain ⟨t, ht⟩ := List.isPrefixOf_iff_prefix.mp h
  refine List.isPrefixOf_iff_prefix.mpr (List.isPrefix_of_utf8Encode_append_eq_utf8Encode ⟨t.toArray⟩ ?_)
  rw [String.utf8Encode_toList, String.utf8Encode_toList]
  apply ByteArray.ext
  rw [ByteArray.data_append, ← Array.toList_inj, Array.toList_append, ← ht]

end dispatch

section objects
open Cv.Objects

/-- `o` with the biases named in `bs` taken out of the module's list and of every back-reference list -/
def without (o : Objs) (bs : List String) : Objs :=
  { o with biases := o.biases.filter (fun p => !bs.contains p.1),
           refs := fun w => (o.refs w).filter (fun b => !bs.contains b) }

theorem without_nil (o : Objs) : without o [] = o := by
  simp [without, List.filter_eq_self.mpr]

theorem without_registered {o : Objs} {w : String} (bs : List String) (h : Registered o w) :
    Registered (without o bs) w := fun p hp hw =>
  have hp' := List.mem_filter.mp hp
  List.mem_filter.mpr ⟨h p hp'.1 hw, hp'.2⟩

theorem deleteBias_eq (o : Objs) (b : String) : deleteBias o b = without o [b] := by
  simp only [deleteBias, without, List.contains_cons, List.contains_nil, Bool.or_false, bne]

theorem delLoop_induct {v : String} {P : Objs → Prop}
    (step : ∀ o b, b ∈ o.refs v → P o → P (deleteBias o b)) : ∀ (n : Nat) (o : Objs), P o → P (delLoop n o v)
  | 0, _, h => h
  | n + 1, o, h => by
    unfold delLoop
    split
    · exact h
    · next b hl => exact delLoop_induct step n _ (step o b (List.mem_of_getLast? hl) h)

theorem length_filter_bne_lt {l : List String} {b : String} (hb : b ∈ l) : (l.filter (· != b)).length < l.length :=
  List.length_filter_lt_length_iff_exists.mpr ⟨b, hb, by simp⟩

theorem not_contains_filter_ne {l : List String} {b : String} (hb : b ∈ l) (x : String) :
    (!(l.filter (· != b)).contains x && (x != b)) = !l.contains x := by
  by_cases h : x = b <;> simp [h, hb, List.mem_filter]

theorem not_contains_filter_not (l m : List String) (x : String) :
    (!(l.filter (fun b => !m.contains b)).contains x && !m.contains x) = (!l.contains x && !m.contains x) := by
  by_cases h : x ∈ m <;> simp [h, List.mem_filter]

theorem delLoop_eq : ∀ {n : Nat} {o : Objs} {v : String}, (o.refs v).length ≤ n → delLoop n o v = without o (o.refs v)
  | 0, o, v, h => by
    rw [List.length_eq_zero_iff.mp (Nat.le_zero.mp h), without_nil]; rfl
  | n + 1, o, v, h => by
    unfold delLoop
    cases hl : (o.refs v).getLast? with
    | none => rw [List.getLast?_eq_none_iff.mp hl, without_nil]
    | some b =>
      have hb : b ∈ o.refs v := List.mem_of_getLast? hl
      have : ((deleteBias o b).refs v).length < (o.refs v).length := length_filter_bne_lt hb
      show delLoop n (deleteBias o b) v = _
      rw [delLoop_eq (n := n) (by omega)]
      -- removing `b`, then what is left of `o.refs v`, removes `o.refs v`
      simp only [without, deleteBias, List.filter_filter, not_contains_filter_ne hb]

theorem deleteVar_eq (o : Objs) (v : String) :
    deleteVar o v = { without o (o.refs v) with vars := o.vars.filter (· != v) } := by
  rw [deleteVar, delLoop_eq (Nat.le_refl _)]; rfl

end objects

end Cv.C20
