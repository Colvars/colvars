import CvProps.C08Lemmas
/-!
# C08, second file — a *variable* with a time-step factor (model `CvModel/VarForce.lean`)

"A bias or **variable** with time-step factor n is evaluated only on steps that are multiples of n and then applies n times
its instantaneous force, so that the impulse delivered over n steps equals that of applying the force at every step."
The variable's own force is the Jacobian compensation `-fj` it applies when an ABF bias hides the Jacobian term.
-/
open Cv

namespace Cv.C08

theorem variable_asleep_nothing (p : VarP ℝ) (c : Clock) (fbInst fj : ℝ) (h : awake c p.tsf = false) :
    varStepForce p c fbInst fj = 0 := by
  unfold varStepForce
  rw [h]
  norm_num

/-- awake: `n` times the instantaneous force, the variable's own part (the hidden Jacobian force) included -/
theorem variable_awake_scales (p : VarP ℝ) (c : Clock) (fbInst fj : ℝ) (h : awake c p.tsf = true)
    (hj : p.jacobian = true) (hh : p.hide = true) :
    varStepForce p c fbInst fj = (p.tsf : ℝ) * (fbInst - fj) := by
  unfold varStepForce varApplied
  rw [h, hj, hh]
  simp only [Bool.and_self, if_true]
  ring

/-- without the hidden-Jacobian mode the variable adds nothing of its own -/
theorem variable_awake_plain (p : VarP ℝ) (c : Clock) (fbInst fj : ℝ) (h : awake c p.tsf = true)
    (hh : p.hide = false) :
    varStepForce p c fbInst fj = (p.tsf : ℝ) * fbInst := by
  unfold varStepForce varApplied
  rw [h, hh]
  simp

private theorem impulse_sum (p : VarP ℝ) (n : Nat) (hn : 1 ≤ n) (hp : p.tsf = (n : Int)) (it : Int)
    (hit : Int.tmod (it + 1) n = 0) (fbInst fj : ℝ) :
    ((List.range n).map fun t => varStepForce p (clockAt it t) fbInst fj).sum = varApplied p ((n : ℝ) * fbInst) fj := by
  have := sum_awake_window hn hit (varApplied p ((n : ℝ) * fbInst) fj)
  simpa only [varStepForce, hp, lit_zero, Int.cast_natCast] using this

/-- the impulse over the window: `n·(fbInst − fj)` -/
theorem variable_impulse_value (p : VarP ℝ) (n : Nat) (hn : 1 ≤ n) (hp : p.tsf = (n : Int))
    (hj : p.jacobian = true) (hh : p.hide = true) (it : Int) (hit : Int.tmod (it + 1) n = 0) (fbInst fj : ℝ) :
    ((List.range n).map fun t => varStepForce p (clockAt it t) fbInst fj).sum = (n : ℝ) * (fbInst - fj) := by
  rw [impulse_sum p n hn hp it hit, varApplied, hj, hh, Bool.and_self, if_pos rfl, hp, Int.cast_natCast]
  ring

/-- impulse conservation for the variable: over `n` consecutive steps starting at a multiple of `n`, at fixed geometry
    (same instantaneous bias force, same Jacobian force), a variable with factor `n` delivers exactly the impulse of the
    same variable with factor 1 — `n·(fbInst − fj)` in the hidden-Jacobian mode -/
theorem variable_impulse_conserved (p : VarP ℝ) (n : Nat) (hn : 1 ≤ n) (hp : p.tsf = (n : Int))
    (hj : p.jacobian = true) (hh : p.hide = true) (it : Int) (hit : Int.tmod (it + 1) n = 0) (fbInst fj : ℝ) :
    ((List.range n).map fun t => varStepForce p (clockAt it t) fbInst fj).sum =
    ((List.range n).map fun t => varStepForce { p with tsf := 1 } (clockAt it t) fbInst fj).sum := by
  have hone : ∀ t, varStepForce { p with tsf := 1 } (clockAt it t) fbInst fj = fbInst - fj := fun t => by
    rw [variable_awake_scales { p with tsf := 1 } _ _ _ (awake_one _) hj hh, Int.cast_one, one_mul]
  rw [variable_impulse_value p n hn hp hj hh it hit]
  simp only [hone, List.map_const', List.length_range, List.sum_replicate, nsmul_eq_mul]

/-- what the biases are told: the Jacobian force is part of the reported total force unless it is hidden *and* the applied
    force is subtracted (then the compensation the variable applied is not counted either) -/
theorem variable_total_force (p : VarP ℝ) (ftCvc fj : ℝ) :
    varTotalForce p ftCvc fj = if p.hide = true ∧ p.subtract = true then ftCvc else ftCvc + fj := by
  unfold varTotalForce
  cases p.hide <;> cases p.subtract <;> simp

theorem distance_jacobian_force (p : VarP ℝ) (hj : p.jacobian = true) (d : ℝ) (hd : 0 < d) :
    jacForce p (jdDistance d) = 2 * p.kT / d := by
  have : (decide (d > 0.0) || decide (d < 0.0)) = true := by simp [lit_zero, hd]
  rw [jacForce, jdDistance, hj, if_pos rfl, if_pos this, lit_two]
  ring

/-! non-vacuity: a variable with factor 3 in the hidden-Jacobian mode, window starting at absolute step 6 -/
example : ∃ p : VarP ℝ, p.tsf = ((3 : Nat) : Int) ∧ p.jacobian = true ∧ p.hide = true ∧ Int.tmod ((5 : Int) + 1) (3 : Nat) = 0 :=
  ⟨{ tsf := 3, jacobian := true, hide := true, kT := 0.6 }, rfl, rfl, rfl, by decide⟩

end Cv.C08
