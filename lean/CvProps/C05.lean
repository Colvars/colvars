import CvProps.C05Lemmas
import Mathlib.Analysis.Calculus.Deriv.Mul
import Mathlib.Analysis.SpecialFunctions.ExpDeriv
/-!
# C05 — the metadynamics bias is the sum of the hills deposited on schedule

Property theorems about `CvModel/Meta.lean` at `α := ℝ`.  A history is a list of (clock, values);
`metaRun` threads the real state together with ghost lists of every hill deposited and of those tabulated.
The hill is the code's truncated Gaussian (`hillValue`): zero when the exponent sum exceeds 23.
-/
open Cv

namespace Cv.C05

/-- the hill a step deposits when it is on schedule and plain (not well-tempered) -/
noncomputable def plainHill (p : MetaParams ℝ) (c : Clock) (xs : List ℝ) : Hill ℝ :=
  { it := c.it, w := p.hillWeight * 1.0, centers := xs, sigmas := p.sigmas }

/-- a hill is deposited exactly at the eligible steps that are multiples of newHillFrequency -/
theorem deposit_iff (p : MetaParams ℝ) (c : Clock) :
    depositNow p c = true ↔ (0 < p.freq ∧ Int.tmod c.it p.freq = 0 ∧ canAccumulate c p.stepZeroData = true) := by
  simp [depositNow, and_assoc]

/-- plain metadynamics: the hills in existence after any history are exactly one hill per scheduled step,
    centred at the values of that step, with the configured widths and height hillWeight -/
theorem schedule (p : MetaParams ℝ) (t : MetaTrace ℝ) (h : MetaHist ℝ) (hwt : p.wellTempered = false) :
    (metaRun p t h).deposited =
      t.deposited ++ (h.filter (fun cx => depositNow p cx.1)).map (fun cx => plainHill p cx.1 cx.2) := by
  induction h generalizing t with
  | nil => simp [metaRun_nil]
  | cons cx rest ih =>
    rw [metaRun_cons, ih, List.filter_cons]
    simp only [stepTrace, stepDeposited, newHill, plainHill, hwt, Bool.false_eq_true, if_false]
    split <;> simp

/-- well-tempered: the height of a new hill is `hillWeight · exp(-V/kΔT)` with `V` the bias at the deposition point -/
theorem wt_height (p : MetaParams ℝ) (c : Clock) (s : MetaState ℝ) (xs : List ℝ) (hd : depositNow p c = true)
    (hwt : p.wellTempered = true) :
    let s' := (metaStep p c s xs).1
    ∃ hl : Hill ℝ, (p.keepHills = true ∨ p.useGrids = false → hl ∈ s'.hills) ∧ hl.centers = xs ∧ hl.sigmas = p.sigmas ∧
      hl.w = p.hillWeight * Real.exp (- wtEnergyHere p (expandGrids p s xs) xs / p.biasTempKB) := by
  refine ⟨newHill p c (expandGrids p s xs) xs, fun hk => ?_, rfl, rfl, ?_⟩
  · rw [metaStep_fst, afterGrid_hills p c _ hk, afterDeposit_hills, if_pos hd]
    exact List.mem_append_right _ List.mem_cons_self
  · simp only [newHill, hwt, if_true, prim_exp, lit_one]
    rw [one_mul, neg_one_mul]

/-- without grids every deposited hill is kept, none is tabulated -/
theorem nogrid_hills (p : MetaParams ℝ) (t : MetaTrace ℝ) (h : MetaHist ℝ) (hg : p.useGrids = false)
    (h0 : t.s.hills = t.deposited ∧ t.s.nNew = t.deposited.length) :
    (metaRun p t h).s.hills = (metaRun p t h).deposited ∧ (metaRun p t h).s.nNew = (metaRun p t h).deposited.length := by
  refine metaRun_induction p (fun t => t.s.hills = t.deposited ∧ t.s.nNew = t.deposited.length)
    (fun t c xs ht => ?_) h t h0
  simp only [stepTrace, stepDeposited, metaStep_nogrid p c _ xs hg, expandGrids_off p t.s xs (.inl hg),
    afterDeposit_hills, afterDeposit_nNew]
  split
  · simp [ht.1, ht.2]
  · exact ht

/-! ## energy and force are those of the sum of hills -/

/-- without grids the energy at every step is the sum over all hills deposited so far -/
theorem energy_nogrid (p : MetaParams ℝ) (c : Clock) (s : MetaState ℝ) (xs : List ℝ) (hg : p.useGrids = false)
    (h0 : s.nNew = s.hills.length) :
    let r := metaStep p c s xs
    r.2.1 = hillsEnergy p r.1.hills xs ∧
    r.2.2 = (List.range xs.length).map (hillsForce p r.1.hills xs) := by
  -- without grids the untabulated hills are all of them
  have hall : newHills (metaStep p c s xs).1 = (metaStep p c s xs).1.hills := by
    apply newHills_all
    rw [metaStep_nogrid p c s xs hg, afterDeposit_hills, afterDeposit_nNew]
    split
    · rw [List.length_append, List.length_singleton, h0]
    · exact h0
  show (metaStep p c s xs).2.1 = _ ∧ (metaStep p c s xs).2.2 = _
  rw [metaStep_snd]
  refine ⟨?_, List.map_congr_left fun i _ => ?_⟩
  · show metaEnergy p (metaStep p c s xs).1 xs = _
    rw [metaEnergy_nogrid p _ xs hg, hall]
  · rw [metaForce_nogrid p _ xs i hg, hall]

/-- `hillsEnergy` is literally `Σ_h W_h · g_h(x)` -/
theorem hillsEnergy_sum (p : MetaParams ℝ) (hs : List (Hill ℝ)) (xs : List ℝ) :
    hillsEnergy p hs xs = (hs.map fun h => h.w * hillValue p h xs).sum := by
  rw [hillsEnergy, foldl_add_zero]

theorem hillsForce_sum (p : MetaParams ℝ) (hs : List (Hill ℝ)) (xs : List ℝ) (i : Nat) :
    hillsForce p hs xs i = (hs.map fun h => h.w * hillValue p h xs * (0.5 / (h.sigmas.getD i 1 * h.sigmas.getD i 1)) *
      dist2SGrad (p.per.getD i none) (xs.getD i 0) (h.centers.getD i 0)).sum := by
  rw [hillsForce, foldl_add_zero]
  simp only [lit_zero, lit_one]

/-- one variable, non-periodic, inside the truncation radius: the force of a hill is minus the derivative of its energy -/
theorem hill_force_deriv (p : MetaParams ℝ) (h : Hill ℝ) (x : ℝ) (c σ : ℝ) (hσ : σ ≠ 0)
    (hp : p.per = [none]) (hc : h.centers = [c]) (hs : h.sigmas = [σ])
    (hin : (x - c) * (x - c) / (σ * σ) < 23) :
    HasDerivAt (fun y => h.w * hillValue p h [y]) (- hillsForce p [h] [x] 0) x := by
  have _ := hσ  -- not needed: `x / 0 = 0` makes hill and force constant
  -- over one-element lists the exponent sum computes to `0 +` its single term
  have hq : ∀ y, sqSum p h [y] = (y - c) * (y - c) / (σ * σ) := fun y => by
    rw [sqSum, hp, hc, hs, lit_zero]
    exact zero_add _
  have hd : HasDerivAt (fun y => sqSum p h [y]) ((1 * (x - c) + (x - c) * 1) / (σ * σ)) x := by
    simp only [hq]
    exact (((hasDerivAt_id x).sub_const c).mul ((hasDerivAt_id x).sub_const c)).div_const _
  -- near `x` the hill is not truncated
  have hev : (fun y => h.w * hillValue p h [y]) =ᶠ[nhds x] fun y => h.w * Real.exp (-0.5 * sqSum p h [y]) := by
    filter_upwards [hd.continuousAt.eventually (gt_mem_nhds (hq x ▸ hin))] with y hy
    rw [hillValue_of_le p h [y] hy.le]
  refine (((hd.const_mul (-0.5)).exp.const_mul h.w).congr_of_eventuallyEq hev).congr_deriv ?_
  rw [hillsForce_sum, hp]
  simp only [List.map_cons, List.map_nil, List.sum_cons, List.sum_nil, add_zero, hc, hs, List.getD_cons_zero,
    dist2SGrad, pdiff, lit_two, hillValue_of_le p h [x] (hq x ▸ hin).le]
  ring

/-- a hill never contributes more than its height, and nothing beyond the truncation radius -/
theorem hill_bounds (p : MetaParams ℝ) (h : Hill ℝ) (xs : List ℝ) :
    0 ≤ hillValue p h xs ∧ hillValue p h xs ≤ 1 := by
  rw [hillValue_eq]
  split
  · rw [lit_zero]; exact ⟨le_rfl, zero_le_one⟩
  · exact ⟨(Real.exp_pos _).le,
      Real.exp_le_one_iff.2 (mul_nonpos_of_nonpos_of_nonneg (by norm_num) (sqSum_nonneg p h xs))⟩

/-! ## grids: tabulated hills at the centre of the current bin, untabulated ones at the position -/

/-- tabulating hills adds, at every bin, their analytic value at the bin centre -/
theorem project_adds (p : MetaParams ℝ) (s : MetaState ℝ) (hs : List (Hill ℝ)) (ix : List Int)
    (hpos : ∀ n ∈ s.g.nx, 0 < n) (hne : s.g.nx ≠ []) (hlen : (s.gridE.length : Int) = ntOf 1 s.g.nx)
    (hok : indexOk s.g.nx ix = true) :
    (projectHills p s hs).gridE.getD (address 1 s.g.nx ix).toNat 0 =
      s.gridE.getD (address 1 s.g.nx ix).toNat 0 + hillsEnergy p hs (binCenters s.g ix) := by
  exact projectHills_getD p s hs ix hpos hne hlen hok

/-- grid invariant: every bin holds the sum of the tabulated hills evaluated at its centre -/
def GridInv (p : MetaParams ℝ) (t : MetaTrace ℝ) : Prop :=
  (t.s.gridE.length : Int) = ntOf 1 t.s.g.nx ∧
  ∀ ix, indexOk t.s.g.nx ix = true →
    t.s.gridE.getD (address 1 t.s.g.nx ix).toNat 0 = hillsEnergy p t.projected (binCenters t.s.g ix)

/-- without grid expansion the invariant holds after every history (keepHills on or off) -/
theorem grid_invariant (p : MetaParams ℝ) (t : MetaTrace ℝ) (h : MetaHist ℝ) (hg : p.useGrids = true)
    (hex : p.expand.any id = false) (hpos : ∀ n ∈ t.s.g.nx, 0 < n) (hne : t.s.g.nx ≠ [])
    (hdep : newHills t.s = t.deposited.drop t.projected.length ∧ t.projected.length ≤ t.deposited.length ∧
            t.projected = t.deposited.take t.projected.length)
    (h0 : GridInv p t) : GridInv p (metaRun p t h) := by
  have _ := hg  -- not needed: without grids the grid is never touched
  have I : FullInv p t.s t.deposited t.projected :=
    ⟨hpos, hne, h0.1, h0.2, hdep.1, hdep.2.1, hdep.2.2⟩
  have I' := I.run hex h
  exact ⟨I'.len, I'.grid⟩

/-- inside the grid the reported energy is the tabulated value of the current bin plus the untabulated hills at the
    actual position; outside it is the analytic sum of the hills kept for off-grid evaluation -/
theorem energy_grid (p : MetaParams ℝ) (s : MetaState ℝ) (xs : List ℝ) (hg : p.useGrids = true) :
    metaEnergy p s xs =
      if indexOk s.g.nx (binsOf s.g xs) = true then
        s.gridE.getD (address 1 s.g.nx (binsOf s.g xs)).toNat 0 + hillsEnergy p (newHills s) xs
      else hillsEnergy p s.offGrid xs := by
  unfold metaEnergy
  simp only [hg, if_true, Bool.true_and, lit_zero]
  by_cases h : indexOk s.g.nx (binsOf s.g xs) = true
  · simp only [h, if_true, Bool.not_true, Bool.false_eq_true, if_false]
    exact hillsEnergy_foldl p _ xs _
  · simp [h]

/-! ## grid expansion is an exact re-indexing -/

/-- after `remapGrid` the value at a new index is the old value at the shifted index, or zero for an added bin -/
theorem remap_exact (oldNx newNx shift : List Int) (old : List ℝ) (ix : List Int)
    (hpos : ∀ n ∈ newNx, 0 < n) (hne : newNx ≠ []) (hl : oldNx.length = newNx.length) (hs : shift.length = newNx.length)
    (hok : indexOk newNx ix = true) :
    (remapGrid 1 oldNx newNx shift old).getD (address 1 newNx ix).toNat 0 =
      (if indexOk oldNx (List.zipWith (· - ·) ix shift) = true
       then old.getD (address 1 oldNx (List.zipWith (· - ·) ix shift)).toNat 0 else 0) := by
  have _ := hl  -- not needed: true whatever the lengths
  have _ := hs  -- not needed: likewise
  rw [remapGrid, List.range_one]
  simp only [List.map_cons, List.map_nil, ← List.map_eq_flatMap]
  rw [C15.getD_map_allIndices _ _ _ hne hpos ix hok]
  simp only [lit_zero, Nat.mul_one, Nat.add_zero]

/-- expansion keeps the bin centres of the old bins (so tabulated values stay attached to the same points) -/
theorem expand_centers (lo w : ℝ) (e i : Int) :
    binToValue (lo - (e : ℝ) * w) w (i + e) = binToValue lo w i := by
  unfold binToValue
  push_cast
  ring

/-! ## a restart that changes the grid (`rebinGrids`) -/

/-- after a restart with `rebinGrids` every bin of the **new** grid holds the sum of all kept hills evaluated at that bin's centre,
    whatever grid the state had been written with — so inside the new grid the bias is the one the property describes -/
theorem rebin_bins (p : MetaParams ℝ) (g' : GridDef ℝ) (s : MetaState ℝ) (ix : List Int)
    (hpos : ∀ n ∈ g'.nx, 0 < n) (hne : g'.nx ≠ []) (hok : indexOk g'.nx ix = true) :
    (metaRebin p g' s).gridE.getD (address 1 g'.nx ix).toNat 0 = hillsEnergy p s.hills (binCenters g' ix) := by
  refine (project_adds p (MetaState.empty g' true) s.hills ix hpos hne ?_ hok).trans ?_
  · simp only [MetaState.empty, if_true, List.length_replicate]
    exact Int.toNat_of_nonneg (Cv.C15.ntOf_pos g'.nx hpos).le
  · simp only [MetaState.empty, if_true, lit_zero, getD_replicate_self, zero_add]

/-! ## non-vacuity -/

example : ∃ (p : MetaParams ℝ) (c : Clock), depositNow p c = true :=
  ⟨{ per := [none], cvWidth := [1], hillWeight := 0.1, freq := 2, sigmas := [1], hillWidth := 2, useGrids := false,
     gridsFreq := 2, keepHills := false, biasTempKB := 1, expand := [false], gridPeriodic := [false] },
   { it := 4, itRestart := 0, first := false, cont := false }, by decide⟩

end Cv.C05
