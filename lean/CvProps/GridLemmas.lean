import CvProps.Base
/-!
# Grid addressing (CvModel/Grid.lean), namespace `Cv.C15`

`address 1 nx` maps the valid index vectors one-to-one onto `[0, nt)`, `unaddress nx` is its inverse, and the loop over a grid
lists `unaddress nx 0, …, unaddress nx (nt - 1)`.
-/
open Cv

namespace Cv.C15

/-! ## unfolding lemmas -/

@[simp] theorem nxcOf_nil (m : Int) : nxcOf m [] = [] := rfl
@[simp] theorem ntOf_nil (m : Int) : ntOf m [] = m := rfl
@[simp] theorem nxcOf_cons (m n : Int) (ns : List Int) : nxcOf m (n :: ns) = ntOf m ns :: nxcOf m ns := rfl
@[simp] theorem ntOf_cons (m n : Int) (ns : List Int) : ntOf m (n :: ns) = ntOf m ns * n := rfl

@[simp] theorem address_nil_left (m : Int) (ix : List Int) : address m [] ix = 0 := by
  cases ix <;> rfl
@[simp] theorem address_nil_right (m : Int) (nx : List Int) : address m nx [] = 0 := by
  cases nx <;> rfl
@[simp] theorem address_cons (m n i : Int) (ns is : List Int) :
    address m (n :: ns) (i :: is) = i * ntOf m ns + address m ns is := rfl

theorem indexOk_cons (n i : Int) (ns is : List Int) :
    indexOk (n :: ns) (i :: is) = true ↔ 0 ≤ i ∧ i < n ∧ indexOk ns is = true := by
  rw [indexOk, Bool.and_eq_true, Bool.and_eq_true, decide_eq_true_eq, decide_eq_true_eq, and_assoc]

@[simp] theorem indexOk_nil_nil : indexOk [] [] = true := rfl
@[simp] theorem indexOk_nil_cons (i : Int) (is : List Int) : indexOk [] (i :: is) = false := rfl
@[simp] theorem indexOk_cons_nil (n : Int) (ns : List Int) : indexOk (n :: ns) [] = false := rfl

theorem incrAux_cons (n i : Int) (ns is : List Int) :
    incrAux (n :: ns) (i :: is) =
      if (incrAux ns is).2 then
        (if i + 1 ≥ n then (0 :: (incrAux ns is).1, true) else ((i + 1) :: (incrAux ns is).1, false))
      else (i :: (incrAux ns is).1, false) := rfl

/-- `incr` is the carry chain, except that a carry out of the first dimension leaves `nx[0]` there -/
theorem incr_cons (n i : Int) (ns is : List Int) :
    incr (n :: ns) (i :: is) =
      if (incrAux (n :: ns) (i :: is)).2 then n :: (incrAux ns is).1 else (incrAux (n :: ns) (i :: is)).1 := by
  have e : incr (n :: ns) (i :: is) =
      if (incrAux ns is).2 then (if i + 1 ≥ n then (n :: (incrAux ns is).1) else ((i + 1) :: (incrAux ns is).1))
      else (i :: (incrAux ns is).1) := rfl
  rw [e, incrAux_cons]
  cases (incrAux ns is).2
  · rfl
  · by_cases h : i + 1 ≥ n
    · simp only [if_true, if_pos h]
    · simp only [if_true, if_neg h, Bool.false_eq_true, if_false]

theorem indexOk_iff_forall₂ : ∀ nx ix : List Int,
    indexOk nx ix = true ↔ List.Forall₂ (fun n i => 0 ≤ i ∧ i < n) nx ix
  | [], [] => by simp
  | [], _ :: _ => by simp
  | _ :: _, [] => by simp
  | n :: ns, i :: is => by rw [indexOk_cons, List.forall₂_cons, indexOk_iff_forall₂ ns is, and_assoc]

/-- induction along a valid index vector: the lengths agree, so only `[], []` and `cons, cons` occur -/
theorem indexOk_rec {P : List Int → List Int → Prop} (nil : P [] [])
    (cons : ∀ n i ns is, 0 ≤ i → i < n → indexOk ns is = true → P ns is → P (n :: ns) (i :: is))
    (nx ix : List Int) (h : indexOk nx ix = true) : P nx ix := by
  rw [indexOk_iff_forall₂] at h
  induction h with
  | nil => exact nil
  | cons hd tl ih => exact cons _ _ _ _ hd.1 hd.2 ((indexOk_iff_forall₂ _ _).2 tl) ih

theorem indexOk_length : ∀ (nx ix : List Int), indexOk nx ix = true → ix.length = nx.length :=
  indexOk_rec rfl fun _ _ _ _ _ _ _ ih => by simp [ih]

theorem indexOk_pos : ∀ (nx ix : List Int), indexOk nx ix = true → ∀ n ∈ nx, 0 < n :=
  indexOk_rec (by simp) fun n i ns is h0 h1 _ ih m hm => by
    rcases List.mem_cons.1 hm with rfl | hm
    · omega
    · exact ih m hm

/-! ## `address 1 nx` and `unaddress nx` are inverse to each other

The primed lemmas are what lemma modules use; the unprimed `C15.address_mult`, … are the audited theorems, proved from them. -/

theorem ntOf_mult (m : Int) (nx : List Int) : ntOf m nx = m * ntOf 1 nx := by
  induction nx with
  | nil => simp
  | cons n ns ih => simp [ih, Int.mul_assoc]

theorem address_mult' (m : Int) (nx : List Int) : ∀ ix, address m nx ix = m * address 1 nx ix := by
  induction nx with
  | nil => intro ix; simp
  | cons n ns ih =>
    intro ix
    cases ix with
    | nil => simp
    | cons i is =>
      simp only [address_cons, ih is, ntOf_mult m ns]
      ring

theorem address_range' (m : Int) (hm : 0 < m) : ∀ nx ix, indexOk nx ix = true →
    0 ≤ address m nx ix ∧ address m nx ix + m ≤ ntOf m nx := by
  refine indexOk_rec (by simp) ?_
  rintro n i ns is h0 h1 - ⟨a0, a1⟩
  simp only [address_cons, ntOf_cons]
  have ht : 0 ≤ ntOf m ns := by omega
  have h3 : 0 ≤ i * ntOf m ns := Int.mul_nonneg h0 ht
  have h4 : (i + 1) * ntOf m ns ≤ n * ntOf m ns := Int.mul_le_mul_of_nonneg_right (by omega) ht
  rw [Int.add_mul, Int.one_mul] at h4
  rw [Int.mul_comm (ntOf m ns) n]
  omega

theorem address_single (n b : Int) : address 1 [n] [b] = b := by
  rw [address_cons, ntOf_nil, address_nil_left, Int.mul_one, Int.add_zero]

theorem ntOf_pos (nx : List Int) (hpos : ∀ n ∈ nx, 0 < n) : 0 < ntOf 1 nx := by
  induction nx with
  | nil => simp
  | cons n ns ih =>
    simp only [ntOf_cons]
    exact Int.mul_pos (ih (fun k hk => hpos k (List.mem_cons_of_mem _ hk))) (hpos n (by simp))

/-- the index vector with address `a`: its digits in the mixed radix `nx`, most significant first -/
def unaddress : List Int → Int → List Int
  | [], _ => []
  | _ :: ns, a => a / ntOf 1 ns :: unaddress ns (a % ntOf 1 ns)

theorem unaddress_address : ∀ nx ix, indexOk nx ix = true → unaddress nx (address 1 nx ix) = ix := by
  refine indexOk_rec rfl ?_
  intro n i ns is _ _ hok ih
  obtain ⟨r0, r1⟩ := address_range' 1 Int.one_pos ns is hok
  have hT : ntOf 1 ns ≠ 0 := by omega
  rw [address_cons, unaddress, Int.add_comm, Int.add_mul_ediv_right _ _ hT, Int.add_mul_emod_self_right,
    Int.ediv_eq_zero_of_lt r0 (by omega), Int.emod_eq_of_lt r0 (by omega), Int.zero_add, ih]

theorem address_unaddress (nx : List Int) (hpos : ∀ n ∈ nx, 0 < n) : ∀ a : Int, 0 ≤ a → a < ntOf 1 nx →
    indexOk nx (unaddress nx a) = true ∧ address 1 nx (unaddress nx a) = a := by
  induction nx with
  | nil => intro a h0 h1; exact ⟨rfl, by simp at h1 ⊢; omega⟩
  | cons n ns ih =>
    intro a h0 h1
    have hpos' : ∀ k ∈ ns, 0 < k := fun k hk => hpos k (List.mem_cons_of_mem _ hk)
    have ht := ntOf_pos ns hpos'
    obtain ⟨his, ha⟩ := ih hpos' (a % ntOf 1 ns) (Int.emod_nonneg _ ht.ne') (Int.emod_lt_of_pos _ ht)
    rw [ntOf_cons, Int.mul_comm] at h1
    rw [unaddress, indexOk_cons, address_cons, ha]
    exact ⟨⟨Int.ediv_nonneg h0 ht.le, Int.ediv_lt_of_lt_mul ht h1, his⟩, Int.ediv_mul_add_emod a _⟩

theorem address_inj' (m : Int) (hm : 0 < m) (nx ix jx : List Int) (hi : indexOk nx ix = true)
    (hj : indexOk nx jx = true) (h : address m nx ix = address m nx jx) : ix = jx := by
  rw [address_mult' m nx ix, address_mult' m nx jx] at h
  rw [← unaddress_address nx ix hi, Int.eq_of_mul_eq_mul_left hm.ne' h, unaddress_address nx jx hj]

theorem indexOk_zeros (nx : List Int) (hpos : ∀ n ∈ nx, 0 < n) :
    indexOk nx (nx.map (fun _ => 0)) = true := by
  induction nx with
  | nil => rfl
  | cons n ns ih =>
    rw [List.map_cons, indexOk_cons]
    exact ⟨le_refl _, hpos n (by simp), ih (fun k hk => hpos k (List.mem_cons_of_mem _ hk))⟩

theorem address_zeros (m : Int) (nx : List Int) : address m nx (nx.map (fun _ => 0)) = 0 := by
  induction nx with
  | nil => simp
  | cons n ns ih => simp only [List.map_cons, address_cons, ih]; simp

theorem incrAux_spec : ∀ ns is, indexOk ns is = true →
    ((incrAux ns is).2 = false →
      indexOk ns (incrAux ns is).1 = true ∧ address 1 ns (incrAux ns is).1 = address 1 ns is + 1) ∧
    ((incrAux ns is).2 = true →
      (incrAux ns is).1 = ns.map (fun _ => 0) ∧ address 1 ns is + 1 = ntOf 1 ns) := by
  refine indexOk_rec ⟨fun h => Bool.noConfusion h, fun _ => ⟨rfl, rfl⟩⟩ ?_
  intro n i ns is h0 h1 h2 ⟨ihf, iht⟩
  have e : (i + 1) * ntOf 1 ns = i * ntOf 1 ns + ntOf 1 ns := by rw [Int.add_mul, Int.one_mul]
  rw [incrAux_cons]
  cases hc : (incrAux ns is).2 with
  | false =>
    -- no carry from below
    obtain ⟨ok, ad⟩ := ihf hc
    rw [if_neg Bool.false_ne_true]
    exact ⟨fun _ => ⟨(indexOk_cons ..).2 ⟨h0, h1, ok⟩, by rw [address_cons, address_cons, ad]; omega⟩,
      fun h => absurd h Bool.false_ne_true⟩
  | true =>
    -- the lower digits have wrapped to zero
    obtain ⟨hz, ad⟩ := iht hc
    rw [if_pos rfl, hz]
    by_cases hge : i + 1 ≥ n
    · obtain rfl : n = i + 1 := by omega
      rw [if_pos hge]
      exact ⟨fun h => Bool.noConfusion h,
        fun _ => ⟨rfl, by rw [address_cons, ntOf_cons, Int.mul_comm (ntOf 1 ns)]; omega⟩⟩
    · rw [if_neg hge]
      exact ⟨fun _ => ⟨(indexOk_cons ..).2 ⟨by omega, by omega, indexOk_zeros ns (indexOk_pos _ _ h2)⟩,
          by rw [address_cons, address_cons, address_zeros]; omega⟩,
        fun h => absurd h Bool.false_ne_true⟩

theorem incr_address' (nx ix : List Int) (hne : nx ≠ []) (h : indexOk nx ix = true) :
    (indexOk nx (incr nx ix) = true ∧ address 1 nx (incr nx ix) = address 1 nx ix + 1) ∨
    (indexOk nx (incr nx ix) = false ∧ address 1 nx ix + 1 = ntOf 1 nx) := by
  obtain ⟨hf, ht⟩ := incrAux_spec nx ix h
  match nx, ix, hne, h with
  | n :: ns, i :: is, _, _ =>
    rw [incr_cons]
    cases hc : (incrAux (n :: ns) (i :: is)).2 with
    | false => exact Or.inl (hf hc)
    | true =>  -- `nx[0]` itself is out of range
      rw [if_pos rfl, indexOk, decide_eq_false (Int.lt_irrefl n), Bool.and_false, Bool.false_and]
      exact Or.inr ⟨rfl, (ht hc).2⟩

theorem enumerate_invalid (nx : List Int) (fuel : Nat) (ix : List Int) (h : indexOk nx ix = false) :
    enumerate nx fuel ix = [] := by
  cases fuel with
  | zero => rfl
  | succ f => simp [enumerate, h]

/-- from address `a`, `k` addresses before the end of the grid -/
theorem enumerate_from (nx : List Int) (hne : nx ≠ []) :
    ∀ (fuel : Nat) (ix : List Int) (a k : Nat), indexOk nx ix = true → address 1 nx ix = (a : Int) →
      ((a + k : Nat) : Int) = ntOf 1 nx → k ≤ fuel →
      enumerate nx fuel ix = (List.range' a k).map (fun j : Nat => unaddress nx j) := by
  intro fuel
  induction fuel with
  | zero =>
    intro ix a k _ _ _ hk
    obtain rfl : k = 0 := by omega
    rfl
  | succ f ih =>
    intro ix a k hok had hak hk
    obtain ⟨_, r1⟩ := address_range' 1 Int.one_pos nx ix hok
    obtain ⟨k', rfl⟩ : ∃ k', k = k' + 1 := ⟨k - 1, by omega⟩
    simp only [enumerate, hok, if_true, List.map_cons, List.range'_succ, ← had, unaddress_address nx ix hok]
    congr 1
    rcases incr_address' nx ix hne hok with ⟨ok', ad'⟩ | ⟨bad, ad'⟩
    · exact ih (incr nx ix) (a + 1) k' ok' (by rw [ad', had]; push_cast; rfl) (by omega) (by omega)
    · obtain rfl : k' = 0 := by omega
      simp [enumerate_invalid nx f _ bad]

/-- the loop `for (ix = new_index(); index_ok(ix); incr(ix))` of Colvars -/
theorem enumerate_zeros (nx : List Int) (hne : nx ≠ []) (hpos : ∀ n ∈ nx, 0 < n) (fuel : Nat)
    (hf : (ntOf 1 nx).toNat < fuel) :
    enumerate nx fuel (nx.map fun _ => 0) = (List.range (ntOf 1 nx).toNat).map (fun j : Nat => unaddress nx j) := by
  have hp := ntOf_pos nx hpos
  rw [List.range_eq_range']
  exact enumerate_from nx hne fuel _ 0 _ (indexOk_zeros nx hpos) (by rw [address_zeros]; rfl) (by omega) (by omega)

/-! ## `allIndices` (CvModel/Meta.lean) -/

theorem indices_eq_allIndices (nx : List Int) : GridIO.indices nx = allIndices nx := rfl

theorem allIndices_eq (nx : List Int) (hne : nx ≠ []) (hpos : ∀ n ∈ nx, 0 < n) :
    allIndices nx = (List.range (ntOf 1 nx).toNat).map (fun j : Nat => unaddress nx j) :=
  enumerate_zeros nx hne hpos _ (Nat.lt_succ_self _)

theorem allIndices_length (nx : List Int) (hne : nx ≠ []) (hpos : ∀ n ∈ nx, 0 < n) :
    (allIndices nx).length = (ntOf 1 nx).toNat := by
  rw [allIndices_eq nx hne hpos, List.length_map, List.length_range]

theorem allIndices_getElem? (nx : List Int) (hne : nx ≠ []) (hpos : ∀ n ∈ nx, 0 < n) (ix : List Int)
    (hok : indexOk nx ix = true) : (allIndices nx)[(address 1 nx ix).toNat]? = some ix := by
  obtain ⟨r0, r1⟩ := address_range' 1 Int.one_pos nx ix hok
  rw [allIndices_eq nx hne hpos, List.getElem?_map, List.getElem?_range (by omega), Option.map_some,
    Int.toNat_of_nonneg r0, unaddress_address nx ix hok]

theorem getD_map_allIndices {β : Type} (f : List Int → β) (d : β) (nx : List Int) (hne : nx ≠ [])
    (hpos : ∀ n ∈ nx, 0 < n) (ix : List Int) (hok : indexOk nx ix = true) :
    ((allIndices nx).map f).getD (address 1 nx ix).toNat d = f ix := by
  rw [List.getD_eq_getElem?_getD, List.getElem?_map, allIndices_getElem? nx hne hpos ix hok]
  rfl

end Cv.C15
