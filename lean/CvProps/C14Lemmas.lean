import CvProps.Base
/-!
# Helper lemmas for C14, namespace `Cv.C14L` (the predicates on events stand first, in `Cv.C14`)

Pairs of lists as elements of a group (`Gr`), what one walker holds (`Wk`), the invariant of the shared-ABF event machine
(`ShInv`) along histories; commuting samples; the two outcomes of a mirror read.
A `restart` drops its walker's pending samples, so it is outside the invariant: the histories here contain none.
-/
open Cv Cv.Shared

namespace Cv.C14

/-- event refers to an existing walker and bin -/
def EvOk (n nb : Nat) : Ev ℝ → Prop
  | .sample w b _ => w < n ∧ b < nb
  | .exchange => True
  | .restart w => w < n

def isSample : Ev ℝ → Bool
  | .sample _ _ _ => true
  | _ => false

def isRestart : Ev ℝ → Bool
  | .restart _ => true
  | _ => false

end Cv.C14

namespace Cv.C14L

/-- a list as a function of the index, `0` beyond its end -/
def gv {X : Type} [Zero X] (l : List X) : Nat → X := fun i => l.getD i 0

theorem gv_ext {X : Type} [Zero X] {a b : List X} (hl : a.length = b.length) (h : gv a = gv b) : a = b :=
  List.ext_getElem hl fun i h1 h2 => by
    simpa [gv, List.getD_eq_getElem?_getD, h1, h2] using congrFun h i

theorem gv_replicate {X : Type} [Zero X] (n : Nat) : gv (List.replicate n (0 : X)) = 0 :=
  funext fun i => getD_replicate_self n i 0

theorem gv_modify {X : Type} [AddCommGroup X] {a : List X} {b : Nat} (hb : b < a.length) (d : X) :
    gv (a.modify b (· + d)) = gv a + Pi.single b d := by
  funext i
  simp only [gv, List.getD_eq_getElem?_getD, Pi.add_apply, List.getElem?_modify]
  by_cases hi : b = i
  · subst hi
    simp [List.getElem?_eq_getElem hb]
  · simp [hi]

/-- grids as functions of the bin: (counts, gradient sums) -/
abbrev G := (Nat → Int) × (Nat → ℝ)

/-- the contribution of one sample -/
noncomputable def sg (bf : Nat × ℝ) : G := (Pi.single bf.1 1, Pi.single bf.1 (-bf.2))

/-- the sum of the contributions of a list of samples -/
noncomputable def GS (l : List (Nat × ℝ)) : G := (l.map sg).sum

theorem GS_nil : GS [] = 0 := rfl
theorem GS_append (a b : List (Nat × ℝ)) : GS (a ++ b) = GS a + GS b := by simp [GS]
theorem GS_cons (x : Nat × ℝ) (a : List (Nat × ℝ)) : GS (x :: a) = sg x + GS a := by simp [GS]
theorem GS_perm {a b : List (Nat × ℝ)} (h : a.Perm b) : GS a = GS b := (h.map sg).sum_eq

/-- the lists `s`, `g` have `nb` bins and hold `x`; closed under the model's operations, so later proofs never mention lengths -/
structure Gr (nb : Nat) (s : List Int) (g : List ℝ) (x : G) : Prop where
  lenS : s.length = nb
  lenG : g.length = nb
  eq : (gv s, gv g) = x

namespace Gr
variable {nb : Nat} {s s' : List Int} {g g' : List ℝ} {x y : G}

theorem ext (h : Gr nb s g x) (h' : Gr nb s' g' x) : (s, g) = (s', g') := by
  have e := h.eq.trans h'.eq.symm
  rw [gv_ext (h.lenS.trans h'.lenS.symm) (congrArg Prod.fst e), gv_ext (h.lenG.trans h'.lenG.symm) (congrArg Prod.snd e)]

theorem zero (nb : Nat) : Gr nb (List.replicate nb 0) (List.replicate nb 0.0) 0 :=
  ⟨List.length_replicate, List.length_replicate, by
    rw [lit_zero, gv_replicate, gv_replicate]; rfl⟩

theorem sample (h : Gr nb s g x) {b : Nat} (hb : b < nb) (f : ℝ) :
    Gr nb (s.modify b (· + 1)) (g.modify b (· - f)) (x + sg (b, f)) :=
  ⟨by simp [h.lenS], by simp [h.lenG], by
    rw [show (fun x : ℝ => x - f) = (· + (-f)) from funext fun x => sub_eq_add_neg x f,
      gv_modify (h.lenS ▸ hb), gv_modify (h.lenG ▸ hb), ← h.eq]; rfl⟩

theorem zipWith {fI : Int → Int → Int} {fR : ℝ → ℝ → ℝ} (hI : fI 0 0 = 0) (hR : fR 0 0 = 0)
    (h : Gr nb s g x) (h' : Gr nb s' g' y) :
    Gr nb (List.zipWith fI s s') (List.zipWith fR g g') (fun i => fI (x.1 i) (y.1 i), fun i => fR (x.2 i) (y.2 i)) :=
  ⟨by rw [List.length_zipWith, h.lenS, h'.lenS, Nat.min_self],
   by rw [List.length_zipWith, h.lenG, h'.lenG, Nat.min_self], by
    rw [← h.eq, ← h'.eq]
    exact Prod.ext (funext (getD_zipWith_of_zero _ hI (h.lenS.trans h'.lenS.symm)))
      (funext (getD_zipWith_of_zero _ hR (h.lenG.trans h'.lenG.symm)))⟩

theorem add (h : Gr nb s g x) (h' : Gr nb s' g' y) : Gr nb (vaddI s s') (Shared.vadd g g') (x + y) :=
  zipWith (add_zero 0) (add_zero 0) h h'

theorem sub (h : Gr nb s g x) (h' : Gr nb s' g' y) : Gr nb (vsubI s s') (Shared.vsub g g') (x - y) :=
  zipWith (sub_zero 0) (sub_zero 0) h h'

theorem foldl (h : Gr nb s g x) : ∀ (l : List (Nat × ℝ)), (∀ bf ∈ l, bf.1 < nb) →
    let r := l.foldl (fun (t : List Int × List ℝ) bf => (t.1.modify bf.1 (· + 1), t.2.modify bf.1 (· - bf.2))) (s, g)
    Gr nb r.1 r.2 (x + GS l) := by
  intro l
  induction l generalizing s g x with
  | nil => exact fun _ => (add_zero x).symm ▸ h
  | cons a l ih =>
    intro hl
    rw [GS_cons, ← add_assoc]
    exact ih (h.sample (hl a List.mem_cons_self) a.2) fun bf hbf => hl bf (List.mem_cons_of_mem _ hbf)

theorem tally {l : List (Nat × ℝ)} (hl : ∀ bf ∈ l, bf.1 < nb) : Gr nb (Shared.tally nb l).1 (Shared.tally nb l).2 (GS l) :=
  zero_add (GS l) ▸ (zero nb).foldl l hl

end Gr

/-- walker `w`: snapshot `C`, grids in use `C` plus its pending samples `p`, local grids `l` -/
structure Wk (nb : Nat) (C p l : G) (w : Walker ℝ) : Prop where
  cur : Gr nb w.samples w.grad (C + p)
  lst : Gr nb w.lastS w.lastG C
  loc : Gr nb w.locS w.locG l

theorem Wk.init (nb : Nat) : Wk nb 0 0 0 (Walker.init nb) :=
  ⟨(add_zero (0 : G)).symm ▸ Gr.zero nb, Gr.zero nb, Gr.zero nb⟩

theorem Wk.sample {nb : Nat} {C p l : G} {w : Walker ℝ} (h : Wk nb C p l w) {b : Nat} (hb : b < nb) (f : ℝ) :
    Wk nb C (p + sg (b, f)) l (w.sample b f) :=
  ⟨(add_assoc C p _) ▸ h.cur.sample hb f, h.lst, h.loc⟩

theorem Wk.delta {nb : Nat} {C p l : G} {w : Walker ℝ} (h : Wk nb C p l w) : Gr nb w.deltaS w.deltaG p :=
  add_sub_cancel_left C p ▸ h.cur.sub h.lst

theorem Wk.exchanged {nb : Nat} {C p l x : G} {w : Walker ℝ} (h : Wk nb C p l w) {S : List Int} {T : List ℝ}
    (t : Gr nb S T x) : Wk nb x 0 (l + p) ⟨S, T, S, T, vaddI w.locS w.deltaS, Shared.vadd w.locG w.deltaG⟩ :=
  ⟨(add_zero x).symm ▸ t, t, h.loc.add h.delta⟩

/-- every walker `k` is `Wk nb C (P k) (L k)`: one common grid `C` -/
structure ShInv (n nb : Nat) (ws : List (Walker ℝ)) (C : G) (P L : Nat → G) : Prop where
  len : ws.length = n
  wk : ∀ (k : Nat) (w : Walker ℝ), ws[k]? = some w → Wk nb C (P k) (L k) w

theorem ShInv.congr {n nb : Nat} {ws : List (Walker ℝ)} {C : G} {P P' L : Nat → G} (h : ShInv n nb ws C P L)
    (hP : ∀ k, P k = P' k) : ShInv n nb ws C P' L :=
  funext hP ▸ h

theorem ShInv.init (n nb : Nat) : ShInv n nb (initAll n nb) 0 0 0 :=
  ⟨List.length_replicate, fun k w h => by
    rw [initAll, List.getElem?_replicate] at h
    split at h
    · cases h
      exact Wk.init nb
    · cases h⟩

theorem ShInv.sample {n nb : Nat} {ws : List (Walker ℝ)} {C : G} {P L : Nat → G} (h : ShInv n nb ws C P L)
    (v : Nat) {b : Nat} (hb : b < nb) (f : ℝ) :
    ShInv n nb (apply ws (.sample v b f)) C (fun k => P k + if k = v then sg (b, f) else 0) L := by
  refine ⟨by simp [apply, h.len], fun k w' hk => ?_⟩
  rw [apply, List.getElem?_modify] at hk
  obtain ⟨w, hw, rfl⟩ := Option.map_eq_some_iff.1 hk
  by_cases hv : v = k
  · subst hv
    rw [if_pos rfl, if_pos rfl]
    exact (h.wk v w hw).sample hb f
  · rw [if_neg hv, if_neg (Ne.symm hv), add_zero]
    exact h.wk k w hw

theorem exchange_total {nb : Nat} {C : G} (rest : List (Walker ℝ)) {Q L : Nat → G}
    (h : ∀ i w, rest[i]? = some w → Wk nb C (Q i) (L i) w) {s : List Int} {g : List ℝ} {x : G} (t : Gr nb s g x) :
    Gr nb (rest.foldl (fun t w => vaddI t w.deltaS) s) (rest.foldl (fun t w => Shared.vadd t w.deltaG) g)
      (x + ∑ i ∈ Finset.range rest.length, Q i) := by
  induction rest generalizing Q L s g x with
  | nil => simpa using t
  | cons w r ih =>
    rw [List.length_cons, Finset.sum_range_succ', add_comm _ (Q 0), ← add_assoc]
    exact ih (fun i w hw => h (i + 1) w hw) (t.add (h 0 w rfl).delta)

/-- what was pending goes into the common grid and into its walker's local grids -/
theorem ShInv.exchange {n nb : Nat} {ws : List (Walker ℝ)} {C : G} {P L : Nat → G} (h : ShInv n nb ws C P L) :
    ShInv n nb (exchange ws) (C + ∑ k ∈ Finset.range n, P k) 0 (fun k => L k + P k) := by
  cases ws with
  | nil => exact ⟨h.len, fun k w hk => by cases hk⟩
  | cons w0 rest =>
    have tot := exchange_total rest (fun i w hw => h.wk (i + 1) w hw)
      (h.wk 0 w0 rfl).cur
    rw [add_assoc, add_comm (P 0), ← Finset.sum_range_succ' P, ← List.length_cons, h.len] at tot
    refine ⟨by rw [Shared.exchange, List.length_map, h.len], fun k w' hk => ?_⟩
    rw [Shared.exchange, List.getElem?_map] at hk
    obtain ⟨w, hw, rfl⟩ := Option.map_eq_some_iff.1 hk
    exact (h.wk k w hw).exchanged tot

/-! ## histories without restarts -/

theorem run_append (ws : List (Walker ℝ)) (a b : List (Ev ℝ)) : run ws (a ++ b) = run (run ws a) b :=
  List.foldl_append

theorem mem_samplesOf {w : Option Nat} {bf : Nat × ℝ} {evs : List (Ev ℝ)} (h : bf ∈ samplesOf w evs) :
    ∃ v, Ev.sample v bf.1 bf.2 ∈ evs := by
  induction evs with
  | nil => cases h
  | cons e r ih =>
    have tail : bf ∈ samplesOf w r → ∃ v, Ev.sample v bf.1 bf.2 ∈ e :: r :=
      fun h => (ih h).imp fun _ => List.mem_cons_of_mem e
    cases e with
    | sample v b f =>
      rw [samplesOf] at h
      split at h
      · rcases List.mem_cons.1 h with rfl | h
        · exact ⟨v, List.mem_cons_self⟩
        · exact tail h
      · exact tail h
    | exchange => exact tail h
    | restart _ => exact tail h

theorem samplesOf_append (w : Option Nat) (a b : List (Ev ℝ)) :
    samplesOf w (a ++ b) = samplesOf w a ++ samplesOf w b := by
  induction a with
  | nil => rfl
  | cons e a ih =>
    cases e with
    | sample v bin f =>
      simp only [List.cons_append, samplesOf, ih]
      split <;> rfl
    | exchange => exact ih
    | restart v => exact ih

theorem samplesOf_none_cons (v b : Nat) (f : ℝ) (r : List (Ev ℝ)) :
    samplesOf none (.sample v b f :: r) = (b, f) :: samplesOf none r :=
  if_pos (.inl rfl)

theorem GS_samplesOf_cons (k v b : Nat) (f : ℝ) (r : List (Ev ℝ)) :
    GS (samplesOf (some k) (.sample v b f :: r)) = (if k = v then sg (b, f) else 0) + GS (samplesOf (some k) r) := by
  by_cases hk : k = v <;> simp [samplesOf, hk, GS_cons]

theorem sum_own (n : Nat) (evs : List (Ev ℝ)) (h : ∀ v b f, Ev.sample v b f ∈ evs → v < n) :
    ∑ k ∈ Finset.range n, GS (samplesOf (some k) evs) = GS (samplesOf none evs) := by
  induction evs with
  | nil => simp [samplesOf, GS_nil]
  | cons e r ih =>
    have ih := ih fun v b f h' => h v b f (List.mem_cons_of_mem _ h')
    cases e with
    | sample v b f =>
      have hv : v ∈ Finset.range n := Finset.mem_range.2 (h v b f List.mem_cons_self)
      simp only [GS_samplesOf_cons, Finset.sum_add_distrib, Finset.sum_ite_eq', hv, if_true, ih]
      rw [samplesOf_none_cons, GS_cons]
    | exchange => exact ih
    | restart _ => exact ih

theorem samples_bins {n nb : Nat} {evs : List (Ev ℝ)} (hok : ∀ e ∈ evs, C14.EvOk n nb e) (w : Option Nat) :
    ∀ bf ∈ samplesOf w evs, bf.1 < nb := fun _ h =>
  have ⟨_, hv⟩ := mem_samplesOf h
  (hok _ hv).2

theorem inv_run {n nb : Nat} (evs : List (Ev ℝ)) {ws : List (Walker ℝ)} {C : G} {P L : Nat → G}
    (h : ShInv n nb ws C P L) (hC : C = ∑ k ∈ Finset.range n, L k)
    (hok : ∀ e ∈ evs, C14.EvOk n nb e) (hnr : ∀ e ∈ evs, C14.isRestart e = false) :
    ∃ C' P' L', ShInv n nb (run ws evs) C' P' L' ∧
      (∀ k, L' k + P' k = L k + P k + GS (samplesOf (some k) evs)) ∧ C' = ∑ k ∈ Finset.range n, L' k := by
  induction evs generalizing ws C P L with
  | nil => exact ⟨C, P, L, h, fun k => (add_zero _).symm, hC⟩
  | cons e r ih =>
    obtain ⟨he, hok'⟩ := List.forall_mem_cons.1 hok
    obtain ⟨hre, hnr'⟩ := List.forall_mem_cons.1 hnr
    match e, he, hre with
    | .sample v b f, he, _ =>
      obtain ⟨C', P', L', h', hown, hC'⟩ := ih (h.sample v he.2 f) hC hok' hnr'
      exact ⟨C', P', L', h', fun k => by rw [hown k, GS_samplesOf_cons]; simp only [add_assoc], hC'⟩
    | .exchange, _, _ =>
      obtain ⟨C', P', L', h', hown, hC'⟩ := ih h.exchange (by rw [hC, Finset.sum_add_distrib]) hok' hnr'
      exact ⟨C', P', L', h', fun k => by rw [hown k, Pi.zero_apply, add_zero]; rfl, hC'⟩

theorem inv_run_samples {n nb : Nat} {C : G} {L : Nat → G} (evs : List (Ev ℝ)) {ws : List (Walker ℝ)}
    {P : Nat → G} (h : ShInv n nb ws C P L) (hok : ∀ e ∈ evs, C14.EvOk n nb e) (hs : ∀ e ∈ evs, C14.isSample e = true) :
    ShInv n nb (run ws evs) C (fun k => P k + GS (samplesOf (some k) evs)) L := by
  induction evs generalizing ws P with
  | nil => exact h.congr fun _ => (add_zero _).symm
  | cons e r ih =>
    obtain ⟨he, hok'⟩ := List.forall_mem_cons.1 hok
    obtain ⟨hse, hs'⟩ := List.forall_mem_cons.1 hs
    match e, he, hse with
    | .sample v b f, he, _ =>
      exact (ih (h.sample v he.2 f) hok' hs').congr fun k => by rw [GS_samplesOf_cons, add_assoc]

/-- the invariant in terms of the history: right after an exchange the common grid holds all samples, nothing is
    pending, walker `k`'s local grids hold what `k` sampled -/
theorem inv_after_exchange {n nb : Nat} {evs : List (Ev ℝ)} (hok : ∀ e ∈ evs, C14.EvOk n nb e)
    (hnr : ∀ e ∈ evs, C14.isRestart e = false) :
    ShInv n nb (run (initAll n nb) (evs ++ [.exchange])) (GS (samplesOf none evs)) 0
      (fun k => GS (samplesOf (some k) evs)) := by
  obtain ⟨C, P, L, h, hown, hC⟩ := inv_run evs (ShInv.init n nb) (by simp) hok hnr
  have := h.exchange
  rw [hC, ← Finset.sum_add_distrib] at this
  simp only [hown, Pi.zero_apply, add_zero, zero_add] at this
  rw [sum_own n evs fun v b f hv => (hok _ hv).1] at this
  rw [run_append]
  exact this

theorem modify_comm {X : Type} {f g : X → X} (hfg : ∀ x, g (f x) = f (g x)) (l : List X) (i j : Nat) :
    (l.modify i f).modify j g = (l.modify j g).modify i f := by
  rcases eq_or_ne i j with rfl | h
  · rw [List.modify_modify_eq, List.modify_modify_eq]
    exact congrArg _ (funext hfg)
  · exact List.modify_modify_ne f g l h

theorem sample_comm (b : Nat) (f : ℝ) (b' : Nat) (f' : ℝ) (w : Walker ℝ) :
    (w.sample b f).sample b' f' = (w.sample b' f').sample b f := by
  simp only [Walker.sample]
  rw [modify_comm (fun _ => rfl) w.samples, modify_comm (fun _ => sub_right_comm ..) w.grad]

theorem run_perm (ws : List (Walker ℝ)) {evs evs' : List (Ev ℝ)} (hp : evs.Perm evs')
    (hs : ∀ e ∈ evs, C14.isSample e = true) : run ws evs = run ws evs' := by
  refine hp.foldl_eq' (fun x hx y hy ws => ?_) ws
  match x, hs x hx, y, hs y hy with
  | .sample v b f, _, .sample v' b' f', _ =>
    exact modify_comm (f := (·.sample b f)) (g := (·.sample b' f')) (sample_comm b f b' f') ws v v'

/-- after an exchange every snapshot equals the grids in use -/
theorem exchange_restart (ws : List (Walker ℝ)) (k : Nat) : apply (exchange ws) (.restart k) = exchange ws := by
  have hfix : ∀ w ∈ exchange ws, w.restart = w := by
    cases ws with
    | nil => nofun
    | cons w0 rest =>
      intro w hw
      obtain ⟨v, -, rfl⟩ := List.mem_map.1 hw
      rfl
  refine List.ext_getElem? fun i => ?_
  rw [apply, List.getElem?_modify]
  cases hi : (exchange ws)[i]? with
  | none => rfl
  | some w => rw [Option.map_eq_map, Option.map_some, hfix w (List.mem_of_getElem? hi), ite_self]

theorem read_of_le {H : Type} {m : Mirror H} {f : List H} {c : Nat} (h : min c f.length ≤ m.pos) : m.read f c = m :=
  if_pos h

theorem read_of_lt {H : Type} {m : Mirror H} {f : List H} {c : Nat} (h : m.pos < min c f.length) :
    m.read f c = ⟨min c f.length, m.hills ++ (f.drop m.pos).take (min c f.length - m.pos)⟩ :=
  if_neg (Nat.not_le.2 h)

theorem read_inv {H : Type} (m : Mirror H) (f f' : List H) (c : Nat)
    (hh : m.hills = f.take m.pos) (hp : m.pos ≤ f.length) (hpre : f <+: f') :
    (m.read f' c).hills = f'.take (m.read f' c).pos ∧ (m.read f' c).pos ≤ f'.length := by
  obtain ⟨t, rfl⟩ := hpre
  have e : m.hills = (f ++ t).take m.pos := by rw [hh, List.take_append_of_le_length hp]
  rcases Nat.lt_or_ge m.pos (min c (f ++ t).length) with h | h
  · rw [read_of_lt h]
    refine ⟨?_, Nat.min_le_right ..⟩
    conv_rhs => rw [← Nat.add_sub_cancel' h.le, List.take_add]
    rw [e]
  · rw [read_of_le h]
    exact ⟨e, hp.trans (by simp)⟩

theorem read_pos_ge {H : Type} (m : Mirror H) (f : List H) (c : Nat) : min c f.length ≤ (m.read f c).pos := by
  rcases Nat.lt_or_ge m.pos (min c f.length) with h | h
  · rw [read_of_lt h]
  · rwa [read_of_le h]

end Cv.C14L
