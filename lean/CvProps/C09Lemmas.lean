import CvModel.Parse
/-!
# C09 — lemmas about the parser model `CvModel/Parse.lean` (namespace `Cv.C09`)
-/
open Cv Cv.Parse

namespace Cv.C09

-- the 26 capitals by evaluation: core has no lemma giving `(Char.ofNat n).toNat`
theorem lowerC_upper_aux : ∀ n, n < 91 → 65 ≤ n →
    ¬ ('A' ≤ Char.ofNat (n + 32) ∧ Char.ofNat (n + 32) ≤ 'Z') := by
  decide

theorem lowerC_idem (c : Char) : lowerC (lowerC c) = lowerC c := by
  unfold lowerC
  by_cases h : 'A' ≤ c ∧ c ≤ 'Z'
  · rw [if_pos h]
    have h1 : 65 ≤ c.toNat := h.1
    have h2 : c.toNat ≤ 90 := h.2
    rw [if_neg (lowerC_upper_aux c.toNat (by omega) h1)]
  · rw [if_neg h, if_neg h]

theorem findFrom_spec {s pat : Str} {p i : Nat} (h : findFrom s pat p = some i) :
    p ≤ i ∧ i + pat.length ≤ s.length ∧ (s.drop i).take pat.length = pat := by
  unfold findFrom at h
  simp only at h
  split at h
  · cases h
  · obtain ⟨k, _, hk⟩ := List.exists_of_findSome?_eq_some h
    split at hk
    · rename_i hc
      cases hk
      exact ⟨Nat.le_add_right _ _, hc.1, hc.2⟩
    · cases hk

/-- A round costs one unit of fuel and advances `pos` by `|key| ≥ 1`, so `fuel + pos` does not decrease; as `pos ≤ |cl|`,
    two units remain: this round, and reporting the end of the search. -/
theorem searchKey_ne_none (conf cl key : Str) (hk : key ≠ []) :
    ∀ fuel pos, pos ≤ cl.length → cl.length + 1 < fuel + pos →
      searchKey conf cl key fuel (some pos) ≠ none := by
  have hm : 0 < key.length := List.length_pos_iff.mpr hk
  intro fuel
  induction fuel with
  | zero => intro pos h1 h2; omega
  | succ fuel ih =>
    intro pos h1 h2
    rw [searchKey]
    split
    · simp
    · cases hf : findFrom cl key (pos + key.length) with
      | none =>
        cases fuel with
        | zero => omega
        | succ f => simp [searchKey]
      | some q =>
        obtain ⟨a, b, _⟩ := findFrom_spec hf
        exact ih q (by omega) (by omega)

theorem searchKey_fuel (conf key : Str) (start : Nat) (hk : key ≠ []) :
    searchKey conf (lower conf) (lower key) (conf.length + 2) (findFrom (lower conf) (lower key) start) ≠ none := by
  cases hf : findFrom (lower conf) (lower key) start with
  | none => simp [searchKey]
  | some q =>
    have hq := (findFrom_spec hf).2.1
    refine searchKey_ne_none conf _ _ (fun h => hk (List.map_eq_nil_iff.mp h)) _ q (by omega) ?_
    rw [lower, List.length_map]; omega

/-- an occurrence of `key` in `cl` at `q` -/
def Occ (cl key : Str) (q : Nat) : Prop :=
  q + key.length ≤ cl.length ∧ (cl.drop q).take key.length = key

theorem searchKey_found (conf cl key : Str) :
    ∀ fuel (o : Option Nat) (p : Nat), (∀ q, o = some q → Occ cl key q) →
      searchKey conf cl key fuel o = some (some p) →
      isolated conf cl key p = true ∧ Occ cl key p := by
  intro fuel
  induction fuel with
  | zero => intro o p _ h; simp [searchKey] at h
  | succ fuel ih =>
    intro o p ho h
    cases o with
    | none => simp [searchKey] at h
    | some pos =>
      rw [searchKey] at h
      split at h
      · rename_i hi
        cases h
        exact ⟨hi, ho _ rfl⟩
      · exact ih _ p (fun q hq => (findFrom_spec hq).2) h

theorem isolated_checkBraces {conf cl key : Str} {p : Nat} (h : isolated conf cl key p = true) :
    checkBraces conf p = true := by
  unfold isolated at h
  simp only [Bool.and_eq_true] at h
  exact h.2

theorem isolated_left {conf cl key : Str} {p : Nat} (hp : 0 < p) (hlt : p - 1 < conf.length)
    (h : isolated conf cl key p = true) :
    ∃ c, conf[p - 1]? = some c ∧ delimLeft.contains c = true := by
  unfold isolated at h
  simp only [Bool.and_eq_true] at h
  have hl := h.1.1
  rw [if_pos hp] at hl
  cases hc : conf[p - 1]? with
  | none =>
    rw [List.getElem?_eq_none_iff] at hc
    omega
  | some c =>
    refine ⟨c, rfl, ?_⟩
    rw [hc] at hl
    simp only at hl
    cases hd : delimLeft.contains c with
    | true => rfl
    | false => rw [hd] at hl; simp at hl

/-- the only exit that is not `found pos ..` is the brace scan running out of text -/
theorem extractData_cases (conf key : Str) (pos fuel : Nat) :
    extractData conf key pos fuel = .parseError ∨
    ∃ d s, extractData conf key pos fuel = .found pos d s := by
  unfold extractData
  dsimp only
  cases findFrom (lower _) key 0 with
  | none => exact .inr ⟨_, _, rfl⟩
  | some k0 =>
    dsimp only
    cases findFirstNotOf _ whiteSpace (k0 + key.length + 1) with
    | none => exact .inr ⟨_, _, rfl⟩
    | some d0 =>
      dsimp only
      cases findFirstOf _ ['{'] d0 with
      | none => exact .inr ⟨_, _, rfl⟩
      | some b0 =>
        dsimp only
        cases extractData.grow conf _ _ _ _ fuel with
        | none => exact .inl rfl
        | some r =>
          dsimp only
          cases findFirstNotOf r.1 whiteSpace _ with
          | none => exact .inr ⟨_, _, rfl⟩
          | some _ => exact .inr ⟨_, _, rfl⟩

theorem keyLookup_found {conf key : Str} {start p : Nat} {d : Str} {s : Nat}
    (h : keyLookup conf key start = .found p d s) :
    isolated conf (lower conf) (lower key) p = true ∧ Occ (lower conf) (lower key) p := by
  unfold keyLookup at h
  simp only at h
  split at h
  · cases h
  · cases h
  · rename_i pos hs
    have hp : pos = p := by
      rcases extractData_cases conf (lower key) pos (conf.length + 2) with he | ⟨d', s', he⟩
      · rw [he] at h; cases h
      · rw [he] at h; cases h; rfl
    subst hp
    exact searchKey_found conf (lower conf) (lower key) _ _ _ (fun q hq => (findFrom_spec hq).2) hs

def countC (c : Char) (s : Str) : Nat := (s.filter (· = c)).length

theorem countC_eq_count (c : Char) (s : Str) : countC c s = s.count c :=
  List.countP_eq_length_filter.symm

theorem foldl_brace (l : Str) : ∀ n : Int,
    l.foldl (fun (n : Int) c => if c = '{' then n + 1 else if c = '}' then n - 1 else n) n
      = n + (l.count '{' : Int) - (l.count '}' : Int) := by
  induction l with
  | nil => intro n; simp
  | cons c l ih =>
    intro n
    rw [List.foldl_cons, ih, List.count_cons, List.count_cons]
    by_cases h1 : c = '{'
    · subst h1
      simp
      omega
    · by_cases h2 : c = '}'
      · subst h2
        simp
        omega
      · simp [h1, h2]

theorem stripComment_append (a t : Str) (ha : '#' ∉ a) : stripComment (a ++ t) = a ++ stripComment t :=
  List.takeWhile_append_of_pos fun c hc => decide_eq_true fun e : c = '#' => ha (e ▸ hc)

theorem stripComment_of_no_hash (a : Str) (ha : '#' ∉ a) : stripComment a = a := by
  have := stripComment_append a [] ha
  rwa [List.append_nil, show stripComment [] = [] from rfl, List.append_nil] at this

theorem stripComment_hash (t : Str) : stripComment ('#' :: t) = [] :=
  List.takeWhile_cons_of_neg (by simp)

end Cv.C09
