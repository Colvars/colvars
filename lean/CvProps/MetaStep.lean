import CvProps.Base
/-!
# One `update()` of the metadynamics bias, decomposed

`metaStep` (CvModel/Meta.lean) is grid expansion, then `update_bias` (`afterDeposit`), then `update_grid_data`
(`afterGrid`); each stage with the lemmas on what it does to the fields of the state.
Namespace `Cv.C05`: `C05.FullInv.deposit` mentions `afterDeposit` and `newHill` under these names.
-/
open Cv

namespace Cv.C05

/-- the hill deposited by a step (state `s1` after grid expansion) -/
noncomputable def newHill (p : MetaParams ℝ) (c : Clock) (s1 : MetaState ℝ) (xs : List ℝ) : Hill ℝ :=
  { it := c.it,
    w := p.hillWeight * (if p.wellTempered then 1.0 * Prim.exp (-1.0 * wtEnergyHere p s1 xs / p.biasTempKB) else 1.0),
    centers := xs, sigmas := p.sigmas }

/-- is this a step at which the new hills are tabulated? -/
def gridTime (p : MetaParams ℝ) (c : Clock) : Bool :=
  p.useGrids && decide (p.gridsFreq > 0) && decide (Int.tmod c.it p.gridsFreq = 0)

/-- `update_bias` -/
noncomputable def afterDeposit (p : MetaParams ℝ) (c : Clock) (s1 : MetaState ℝ) (xs : List ℝ) : MetaState ℝ :=
  if depositNow p c then
    { s1 with hills := s1.hills ++ [newHill p c s1 xs], nNew := s1.nNew + 1,
              offGrid := if p.useGrids && decide (binDistance p s1.g xs < ((3 * Prim.floorI p.hillWidth : Int) : ℝ) + 1.0)
                 then s1.offGrid ++ [newHill p c s1 xs] else s1.offGrid }
  else s1

/-- `update_grid_data` -/
noncomputable def afterGrid (p : MetaParams ℝ) (c : Clock) (s2 : MetaState ℝ) : MetaState ℝ :=
  if gridTime p c then
    { projectHills p s2 (newHills s2) with nNew := 0, hills := if p.keepHills then s2.hills else [] }
  else s2

theorem metaStep_fst (p : MetaParams ℝ) (c : Clock) (s : MetaState ℝ) (xs : List ℝ) :
    (metaStep p c s xs).1 = afterGrid p c (afterDeposit p c (expandGrids p s xs) xs) := by
  -- plain `rfl` is slow; unfolded, both sides are the same chain of `let`s
  unfold metaStep afterGrid afterDeposit gridTime newHill
  rfl

theorem metaStep_snd (p : MetaParams ℝ) (c : Clock) (s : MetaState ℝ) (xs : List ℝ) :
    (metaStep p c s xs).2 = (metaEnergy p (metaStep p c s xs).1 xs,
      (List.range xs.length).map (metaForce p (metaStep p c s xs).1 xs)) := rfl

theorem expandGrids_off (p : MetaParams ℝ) (s : MetaState ℝ) (xs : List ℝ)
    (h : p.useGrids = false ∨ p.expand.any id = false) : expandGrids p s xs = s := by
  unfold expandGrids
  rcases h with h | h <;> simp [h]

theorem gridTime_off (p : MetaParams ℝ) (c : Clock) (h : p.useGrids = false) : gridTime p c = false := by
  simp [gridTime, h]

theorem newHills_snoc (s s' : MetaState ℝ) (h : Hill ℝ) (hh : s'.hills = s.hills ++ [h])
    (hn : s'.nNew = s.nNew + 1) : newHills s' = newHills s ++ [h] := by
  unfold newHills
  rw [hh, hn, List.length_append, List.length_singleton, Nat.add_sub_add_right,
    List.drop_append_of_le_length (Nat.sub_le ..)]

theorem newHills_all (s : MetaState ℝ) (h : s.nNew = s.hills.length) : newHills s = s.hills := by
  rw [newHills, h, Nat.sub_self, List.drop_zero]

theorem newHills_none (s : MetaState ℝ) (h : s.nNew = 0) : newHills s = [] := by
  rw [newHills, h, Nat.sub_zero, List.drop_length]

theorem afterDeposit_off (p : MetaParams ℝ) (c : Clock) (s : MetaState ℝ) (xs : List ℝ) (h : depositNow p c = false) :
    afterDeposit p c s xs = s :=
  if_neg (Bool.not_eq_true _ ▸ h)

theorem afterDeposit_on (p : MetaParams ℝ) (c : Clock) (s : MetaState ℝ) (xs : List ℝ) (h : depositNow p c = true) :
    afterDeposit p c s xs =
      { s with hills := s.hills ++ [newHill p c s xs], nNew := s.nNew + 1,
               offGrid := if p.useGrids && decide (binDistance p s.g xs < ((3 * Prim.floorI p.hillWidth : Int) : ℝ) + 1.0)
                 then s.offGrid ++ [newHill p c s xs] else s.offGrid } :=
  if_pos h

theorem afterDeposit_hills (p : MetaParams ℝ) (c : Clock) (s : MetaState ℝ) (xs : List ℝ) :
    (afterDeposit p c s xs).hills = if depositNow p c then s.hills ++ [newHill p c s xs] else s.hills := by
  unfold afterDeposit; split <;> rfl

theorem afterDeposit_nNew (p : MetaParams ℝ) (c : Clock) (s : MetaState ℝ) (xs : List ℝ) :
    (afterDeposit p c s xs).nNew = if depositNow p c then s.nNew + 1 else s.nNew := by
  unfold afterDeposit; split <;> rfl

theorem afterGrid_off (p : MetaParams ℝ) (c : Clock) (s : MetaState ℝ) (h : gridTime p c = false) :
    afterGrid p c s = s :=
  if_neg (Bool.not_eq_true _ ▸ h)

theorem afterGrid_on (p : MetaParams ℝ) (c : Clock) (s : MetaState ℝ) (h : gridTime p c = true) :
    afterGrid p c s =
      { projectHills p s (newHills s) with nNew := 0, hills := if p.keepHills then s.hills else [] } :=
  if_pos h

theorem afterGrid_hills (p : MetaParams ℝ) (c : Clock) (s : MetaState ℝ)
    (h : p.keepHills = true ∨ p.useGrids = false) : (afterGrid p c s).hills = s.hills := by
  cases hg : gridTime p c
  · rw [afterGrid_off p c s hg]
  · rw [afterGrid_on p c s hg]
    rcases h with h | h
    · exact if_pos h
    · rw [gridTime_off p c h] at hg
      cases hg

theorem metaStep_nogrid (p : MetaParams ℝ) (c : Clock) (s : MetaState ℝ) (xs : List ℝ) (hg : p.useGrids = false) :
    (metaStep p c s xs).1 = afterDeposit p c s xs := by
  rw [metaStep_fst, expandGrids_off p s xs (.inl hg), afterGrid_off _ _ _ (gridTime_off p c hg)]

theorem hillsEnergy_nil (p : MetaParams ℝ) (xs : List ℝ) : hillsEnergy p [] xs = 0 := lit_zero
theorem hillsForce_nil (p : MetaParams ℝ) (xs : List ℝ) (i : Nat) : hillsForce p [] xs i = 0 := lit_zero

/-! ### writing and loading a state, by mode -/

theorem metaFlush_off (p : MetaParams ℝ) (s : MetaState ℝ) (hu : p.useGrids = false) : metaFlush p s = s :=
  if_neg (Bool.not_eq_true _ ▸ hu)

theorem metaFlush_on (p : MetaParams ℝ) (s : MetaState ℝ) (hu : p.useGrids = true) : metaFlush p s =
    { projectHills p s (newHills s) with nNew := 0, hills := if p.keepHills then s.hills else [] } :=
  if_pos hu

theorem metaLoaded_off (p : MetaParams ℝ) (s : MetaState ℝ) (hu : p.useGrids = false) :
    metaLoaded p s = { s with nNew := s.hills.length } := by
  simp only [metaLoaded, metaFlush_off p s hu, hu, Bool.not_false, Bool.true_or, if_true, Bool.false_eq_true, if_false]

theorem metaLoaded_on (p : MetaParams ℝ) (s : MetaState ℝ) (hu : p.useGrids = true) : metaLoaded p s =
    { metaFlush p s with hills := if p.keepHills then (metaFlush p s).hills else (metaFlush p s).offGrid, nNew := 0 } := by
  simp only [metaLoaded, hu, Bool.not_true, Bool.false_or, if_true]

end Cv.C05
