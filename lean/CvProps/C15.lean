import CvProps.C15Lemmas
import CvProps.ValueLemmas
/-!
# C15 — every sample lands in exactly one grid bin; grid index arithmetic

Property theorems about `CvModel/Grid.lean` (bins, index vectors and addresses, the loop over a grid, grid sizes, histogram
counts) and, in namespace `IO`, about `CvModel/GridIO.lean` (grids written to multicolumn, raw and restart files and read back;
the periodicity flag a restart re-derives).  Scalars at `ℝ`; indices are `Int`.
-/
open Cv

namespace Cv.C15

/-! ## bins partition the line -/

/-- the bin assigned to `x` is the unique `i` with `lo + i·w ≤ x < lo + (i+1)·w` -/
theorem bin_iff (lo w x : ℝ) (hw : 0 < w) (i : ℤ) :
    valueToBin lo w x = i ↔ lo + i * w ≤ x ∧ x < lo + (i + 1) * w := by
  rw [valueToBin, prim_floorI, Int.floor_eq_iff, le_div_iff₀ hw, div_lt_iff₀ hw, le_sub_iff_add_le', sub_lt_iff_lt_add']

theorem bin_unique (lo w x : ℝ) (hw : 0 < w) (i j : ℤ)
    (hi : lo + i * w ≤ x ∧ x < lo + (i + 1) * w) (hj : lo + j * w ≤ x ∧ x < lo + (j + 1) * w) : i = j := by
  rw [← bin_iff lo w x hw i] at hi
  rw [← bin_iff lo w x hw j] at hj
  rw [← hi, ← hj]

/-- the value reported for a bin (its centre) lies in that bin -/
theorem bin_center (lo w : ℝ) (hw : 0 < w) (i : ℤ) : valueToBin lo w (binToValue lo w i) = i := by
  -- the centre is half a width above the lower edge of the bin and half a width below the upper one
  have e : binToValue lo w i = lo + i * w + w / 2 := by rw [binToValue, lit_half]; ring
  have e' : lo + (i + 1) * w = lo + i * w + w / 2 + w / 2 := by ring
  rw [bin_iff lo w _ hw i, e, e']
  exact ⟨le_add_of_nonneg_right (half_pos hw).le, lt_add_of_pos_right _ (half_pos hw)⟩

theorem bin_bound_range (lo w x : ℝ) (nx : ℤ) (hn : 0 < nx) (per : Bool) :
    0 ≤ valueToBinBound lo w nx per x ∧ valueToBinBound lo w nx per x < nx := by
  unfold valueToBinBound
  simp only
  generalize (if per = true then Int.tmod (Prim.floorI ((x - lo) / w)) nx
    else Prim.floorI ((x - lo) / w)) = b
  split_ifs <;> omega

/-! ## index vectors and addresses -/

theorem index_ok_iff (nx ix : List Int) :
    indexOk nx ix = true ↔ ix.length = nx.length ∧ ∀ k (h : k < nx.length) (h' : k < ix.length), 0 ≤ ix[k] ∧ ix[k] < nx[k] := by
  rw [indexOk_iff_forall₂, List.forall₂_iff_get, eq_comm]
  rfl

/-- a valid index addresses `mult` consecutive cells inside the allocated array -/
theorem address_range (mult : Int) (hm : 0 < mult) (nx ix : List Int) (h : indexOk nx ix = true) :
    0 ≤ address mult nx ix ∧ address mult nx ix + mult ≤ ntOf mult nx :=
  address_range' mult hm nx ix h

theorem address_mult (mult : Int) (nx ix : List Int) : address mult nx ix = mult * address 1 nx ix :=
  address_mult' mult nx ix

theorem address_inj (mult : Int) (hm : 0 < mult) (nx ix jx : List Int)
    (hi : indexOk nx ix = true) (hj : indexOk nx jx = true)
    (h : address mult nx ix = address mult nx jx) : ix = jx :=
  address_inj' mult hm nx ix jx hi hj h

/-- every cell of the array is addressed by some valid index -/
theorem address_surj (nx : List Int) (hpos : ∀ n ∈ nx, 0 < n) (a : Int) (h0 : 0 ≤ a) (h1 : a < ntOf 1 nx) :
    ∃ ix, indexOk nx ix = true ∧ address 1 nx ix = a :=
  ⟨_, address_unaddress nx hpos a h0 h1⟩

/-- `incr` moves to the next address, or leaves the grid exactly at the last one -/
theorem incr_address (nx ix : List Int) (hne : nx ≠ []) (h : indexOk nx ix = true) :
    (indexOk nx (incr nx ix) = true ∧ address 1 nx (incr nx ix) = address 1 nx ix + 1) ∨
    (indexOk nx (incr nx ix) = false ∧ address 1 nx ix + 1 = ntOf 1 nx) :=
  incr_address' nx ix hne h

/-- looping with `incr` from the zero index while `index_ok` visits every address exactly once, in order -/
theorem enumerate_all (nx : List Int) (hne : nx ≠ []) (hpos : ∀ n ∈ nx, 0 < n) (fuel : Nat)
    (hf : (ntOf 1 nx).toNat < fuel) :
    (enumerate nx fuel (nx.map (fun _ => 0))).map (address 1 nx) = (List.range (ntOf 1 nx).toNat).map (fun k => (k : Int)) := by
  -- trap: the statement has the list coerced (`do let a ← List.range _; pure ↑a`), not the element
  rw [enumerate_zeros nx hne hpos fuel hf, List.map_map, bind_pure_comp, List.map_eq_map, List.map_id']
  refine List.map_congr_left fun (k : Nat) hk => (address_unaddress nx hpos k (by omega) ?_).2
  have := List.mem_range.1 hk
  omega

/-- periodic wrap lands in range and is congruent to the input modulo the size -/
theorem wrap_periodic (n i : Int) (hn : 0 < n) (hi : -n ≤ i) :
    0 ≤ Int.tmod (i + n) n ∧ Int.tmod (i + n) n < n ∧ (Int.tmod (i + n) n - i) % n = 0 := by
  rw [Int.tmod_eq_emod_of_nonneg (by omega), Int.add_emod_right]
  exact ⟨Int.emod_nonneg _ hn.ne', Int.emod_lt_of_pos _ hn,
    by rw [Int.sub_emod, Int.emod_emod, Int.sub_self, Int.zero_emod]⟩

/-! ## grid sizes from boundaries -/

/-- `nx = ⌊(hi - lo)/w + 1/2⌋` for boundaries in the right order -/
theorem sizes_round (lo hi w : ℝ) (hw : 0 < w) (h : lo ≤ hi) :
    nbinsRound lo hi w = ⌊(hi - lo) / w + 1 / 2⌋ := by
  have h0 : 0 ≤ (hi - lo) / w := div_nonneg (sub_nonneg.2 h) hw.le
  rw [nbinsRound, lit_half, lit_zero, if_neg (not_lt.2 (add_nonneg h0 one_half_pos.le)), prim_floorI]

/-- after adjustment the upper boundary is within 1e-10 bins of `lo + nx·w` -/
theorem sizes_upper (lo hi w : ℝ) (hw : 0 < w) :
    |adjustedUpper lo hi w - (lo + (nbinsRound lo hi w : ℝ) * w)| ≤ 1.0E-10 * w := by
  have hpos : (0 : ℝ) ≤ 1.0E-10 * w := mul_nonneg (by norm_num) hw.le
  unfold adjustedUpper
  simp only
  split_ifs with hc
  · rw [sub_self, abs_zero]; exact hpos
  · rw [absS_real, not_lt] at hc
    have e : hi - (lo + (nbinsRound lo hi w : ℝ) * w) = ((hi - lo) / w - (nbinsRound lo hi w : ℝ)) * w := by
      rw [sub_mul, div_mul_cancel₀ _ hw.ne']
      ring
    rw [e, abs_mul, abs_of_pos hw]
    exact mul_le_mul_of_nonneg_right hc hw.le

/-! ## histogram counts -/

def total (d : List ℝ) : ℝ := d.sum

/-- the samples of a scalar history that are counted: eligible and inside the grid -/
noncomputable def counted (g : GridDef ℝ) (s : Bool × List ℝ) : Bool := s.1 && indexOk g.nx (binsOf g s.2)

noncomputable def runScalar (g : GridDef ℝ) (d : List ℝ) (h : List (Bool × List ℝ)) : List ℝ :=
  h.foldl (fun d s => histStepScalar g d s.1 s.2) d

/-- after any history the sum of all counts is the number of eligible in-range samples -/
theorem hist_total (g : GridDef ℝ) (d : List ℝ) (h : List (Bool × List ℝ))
    (hlen : (d.length : Int) = ntOf 1 g.nx) :
    total (runScalar g d h) = total d + ((h.filter (counted g)).length : ℝ) := by
  rw [← sum_map_ite_one]
  exact foldl_obs_add _ List.sum _ (fun d => (d.length : Int) = ntOf 1 g.nx)
    (fun d s hd => by rw [histStepScalar_length]; exact hd) (fun d s hd => histStepScalar_sum g d s.1 s.2 hd) h d hlen

/-- each bin's count is the number of counted samples whose bin vector addresses it -/
theorem hist_bin (g : GridDef ℝ) (d : List ℝ) (h : List (Bool × List ℝ)) (a : Nat)
    (hlen : (d.length : Int) = ntOf 1 g.nx) (ha : a < d.length) :
    (runScalar g d h).getD a 0 = d.getD a 0 +
      (((h.filter (counted g)).filter (fun s => address 1 g.nx (binsOf g s.2) = (a : Int))).length : ℝ) := by
  have _ := hlen  -- not needed: `ha` suffices
  rw [List.filter_filter, ← sum_map_ite_one]
  exact foldl_obs_add _ (·.getD a 0) _ (fun d => a < d.length)
    (fun d s hd => by rw [histStepScalar_length]; exact hd) (fun d s hd => histStepScalar_getD g d s.1 s.2 a hd) h d ha

/-- vector variables: the total is the sum of the weights of the in-range elements of eligible steps -/
theorem hist_vector_total (g : GridDef ℝ) (d : List ℝ) (elig : Bool) (elems : List (List ℝ × ℝ))
    (hlen : (d.length : Int) = ntOf 1 g.nx) :
    total (histStepVector g d elig elems) = total d +
      (if elig then ((elems.filter (fun e => indexOk g.nx (binsOf g e.1))).map (·.2)).sum else 0) :=
  histStepVector_sum g d elig elems hlen

/-! ## a valid index with its address, and a value with its bin, computed -/

example : indexOk [2, 3] [1, 2] = true ∧ address 1 [2, 3] [1, 2] = 5 ∧ ntOf 1 [2, 3] = 6 := by
  decide

example : valueToBin (0:ℝ) 0.5 1.0 = 2 := by
  rw [bin_iff _ _ _ (by norm_num)]
  norm_num

/-! ## grid files read back (CvModel/GridIO.lean) -/

namespace IO
open Cv.GridIO

/-- a well-formed grid: one lower boundary, width and periodicity flag per dimension, positive sizes, `mult` values
    per grid point -/
structure WF (g : GridFile ℝ) : Prop where
  lo : g.lo.length = g.nx.length
  w : g.w.length = g.nx.length
  per : g.per.length = g.nx.length
  pos : ∀ n ∈ g.nx, 0 < n
  data : g.data.length = npoints g.nx * g.mult

/-- the enumeration of a grid with positive sizes visits at least `npoints` index vectors (exactly `npoints` when
    there is at least one dimension; two copies of the empty index for the zero-dimensional grid) -/
private theorem indices_length (nx : List Int) (hpos : ∀ n ∈ nx, 0 < n) : npoints nx ≤ (indices nx).length := by
  by_cases hne : nx = []
  · subst hne; decide
  · rw [indices_eq_allIndices, allIndices_length nx hne hpos]
    exact Nat.le_refl _

/-- **multicolumn round trip**: a grid written in multicolumn form and read back has the same sizes, boundaries,
    widths, periodicity flags and data -/
theorem multicol_roundtrip (g : GridFile ℝ) (h : WF g) :
    decodeMulticol g.mult (encodeMulticol g) = some g := by
  obtain ⟨nx, lo, w, per, mult, data⟩ := g
  obtain ⟨hlo, hw, hper, hpos, hdata⟩ := h
  simp only at hlo hw hper hpos hdata
  simp only [encodeMulticol, List.cons_append, List.nil_append, decodeMulticol, Int.toNat_natCast]
  rw [readDims_enc _ _ _ _ _ nx.length (by simp)]
  simp only [List.map_map, Function.comp_def, flag_int_ne_zero, map_getD_range_self nx 0 _ rfl, map_getD_range_self lo _ _ hlo,
    map_getD_range_self w _ _ hw, map_getD_range_self per _ _ hper]
  have hb := readBody_enc nx.length mult (fun ix i => binToValue (lo.getD i 0.0) (w.getD i 1.0) (ix.getD i 0))
    (fun j => data.getD j 0.0) (npoints nx) (indices nx) 0 (indices_length nx hpos)
  rw [hb, flatMap_map_getD_blocks data _ mult (npoints nx) 0 (by rw [Nat.zero_add]; omega)]
  -- the `npoints · mult` values read are the whole array
  rw [Nat.zero_mul, List.drop_zero, ← hdata, List.take_length]

/-- **raw round trip** on a grid of the same shape -/
theorem raw_roundtrip (g : GridFile ℝ) (h : WF g) (shape : GridFile ℝ) (hs : shape = { g with data := shape.data }) :
    decodeRaw shape (encodeRaw g) = some g := by
  have h1 : shape.nx = g.nx := by rw [hs]
  have h2 : shape.mult = g.mult := by rw [hs]
  unfold decodeRaw encodeRaw
  rw [h1, h2, List.take_of_length_le (Nat.le_of_eq h.data)]
  have := takeReals_map g.data _ h.data []
  rw [List.append_nil] at this
  rw [this, hs]
  rfl

private theorem uppers_length {g : GridFile ℝ} (h : WF g) : (uppers g).length = g.nx.length := by
  simp [uppers, h.lo, h.w]

/-- **restart round trip**: the parameter block re-creates sizes, boundaries and widths; periodicity and multiplicity
    come from the reader's configuration -/
theorem restart_roundtrip (g : GridFile ℝ) (h : WF g) :
    decodeRestart g.per g.mult (encodeRestart g) = some g := by
  simp only [encodeRestart_eq, decodeRestart, Int.toNat_natCast, takeReals_map _ _ h.lo,
    takeReals_map _ _ (uppers_length h), takeReals_map _ _ h.w, takeInts_map _ _ rfl]
  exact raw_roundtrip g h _ rfl

/-- **restart block read by a grid of another shape**: a grid on variables with periods `periods` that reads the block takes
    over sizes, boundaries, widths and data *and* re-derives its periodicity flags from the boundaries in the block — so it
    ends up with the flags of the grid written, whatever flags (or boundaries) it had before: they do not enter at all -/
theorem restart_takes_over_periodicity (g : GridFile ℝ) (h : WF g) (periods : List (Option ℝ)) (cvw : List ℝ)
    (hper : g.per = flagsOf periods cvw g.lo (uppers g)) :
    decodeRestartOn periods cvw g.mult (encodeRestart g) = some g := by
  simp only [encodeRestart_eq, decodeRestartOn, Int.toNat_natCast, takeReals_map _ _ h.lo,
    takeReals_map _ _ (uppers_length h), takeReals_map _ _ h.w, takeInts_map _ _ rfl, ← hper]
  exact raw_roundtrip g h _ rfl

private theorem periodicFlag_some (P cvw lo hi : ℝ) :
    periodicFlag (some P) cvw lo hi = decide (|pshift P (lo - hi)| / cvw < 1.0e-10) := by
  simp only [periodicFlag, dist2S, pdiff, sq_real, prim_sqrt, Real.sqrt_mul_self_eq_abs]

/-- the flag of a dimension is "the variable is periodic and the interval is a whole number of periods" (to the tolerance
    `1e-10` of the variable's width): a grid over exactly one period is periodic, a grid over a proper part of it is not -/
theorem periodicFlag_whole_period (P cvw lo : ℝ) (hP : 0 < P) (hw : 0 < cvw) :
    periodicFlag (some P) cvw lo (lo + P) = true := by
  have _ := hw  -- not needed: the distance is 0
  rw [periodicFlag_some, (Cv.C18.pshift_zero_iff P _ hP).2 ⟨-1, by push_cast; ring⟩, abs_zero, zero_div]
  norm_num

theorem periodicFlag_part_of_period (P cvw lo hi : ℝ) (hP : 0 < P) (hw : 0 < cvw) (hlo : lo < hi) (hhi : hi - lo ≤ P / 2)
    (hbig : cvw * 1.0e-10 ≤ hi - lo) :
    periodicFlag (some P) cvw lo hi = false := by
  rw [periodicFlag_some, Cv.C18.pshift_of_mem _ _ hP (by rw [neg_le, neg_sub]; exact hhi)
      ((sub_neg.2 hlo).trans (half_pos hP)), abs_of_neg (sub_neg.2 hlo),
    decide_eq_false_iff_not, not_lt, le_div_iff₀ hw, neg_sub, mul_comm]
  exact hbig

/-- a non-periodic variable never gives a periodic grid dimension -/
theorem periodicFlag_nonperiodic (cvw lo hi : ℝ) : periodicFlag (none : Option ℝ) cvw lo hi = false := rfl

/-- a truncated raw stream is rejected, not padded -/
theorem raw_truncated_rejected (g : GridFile ℝ) (h : WF g) (k : Nat) (hk : k < npoints g.nx * g.mult) :
    decodeRaw g ((encodeRaw g).take k) = none := by
  have _ := h  -- not needed: `take k` is too short anyway
  rw [decodeRaw, takeReals_short _ _ (by rw [List.length_take]; omega)]
  rfl

/-! ### gradient grids linked to a count grid -/

/-- the state ABF keeps: no accumulated force where there is no sample -/
def GradConsistent (mult : Nat) (data : List ℝ) (cnt : List Nat) : Prop :=
  ∀ a, a < data.length → pointCount mult cnt a = 0 → data.getD a 0 = 0

private theorem gradOut_length (mult : Nat) (data : List ℝ) (cnt : List Nat) :
    (gradOut mult data cnt).length = data.length := by
  simp [gradOut]

private theorem gradIn_length (mult : Nat) (vals : List ℝ) (cnt : List Nat) :
    (gradIn mult vals cnt).length = vals.length := by
  simp [gradIn]

theorem WF_with_data (g : GridFile ℝ) (h : WF g) (out : List ℝ) (hl : out.length = g.data.length) :
    WF { g with data := out } :=
  ⟨h.lo, h.w, h.per, h.pos, by show out.length = _; rw [hl]; exact h.data⟩

/-- writing the average and multiplying by the count again gives back the stored sums -/
theorem grad_out_in (mult : Nat) (data : List ℝ) (cnt : List Nat) (h : GradConsistent mult data cnt) :
    gradIn mult (gradOut mult data cnt) cnt = data := by
  apply List.ext_getElem
  · rw [gradIn_length, gradOut_length]
  · intro a h1 h2
    have hd : data.getD a 0 = data[a] := getD_of_lt _ _ _ h2
    simp only [gradIn, gradOut, List.getElem_map, List.getElem_zipIdx, Nat.zero_add]
    by_cases hp : pointCount mult cnt a > 0
    · rw [if_pos hp]
      have : ((pointCount mult cnt a : Nat) : ℝ) ≠ 0 := Nat.cast_ne_zero.mpr (by omega)
      exact div_mul_cancel₀ _ this
    · rw [if_neg hp]
      have h0 : pointCount mult cnt a = 0 := by omega
      have := h a h2 h0
      rw [hd] at this
      rw [this]
      norm_num

/-- **gradient grid, multicolumn round trip** (plain read): data and counts of the reading grids equal those written -/
theorem grad_multicol_roundtrip (g : GridFile ℝ) (h : WF g) (cnt : List Nat)
    (hc : GradConsistent g.mult g.data cnt) :
    gradMulticolRoundTrip g (some cnt) false = some (g.data, cnt) := by
  have hw := WF_with_data g h (gradOut g.mult g.data cnt) (gradOut_length _ _ _)
  have hr := multicol_roundtrip _ hw
  simp only [gradMulticolRoundTrip]
  simp only at hr
  rw [hr]
  simp [grad_out_in _ _ _ hc]

/-- **reading with `add`** (the `inputPrefix` path): grids that already hold the same data end up with exactly twice the
    sums and twice the counts — every component of every point, not only the first -/
theorem grad_multicol_add (g : GridFile ℝ) (h : WF g) (cnt : List Nat)
    (hc : GradConsistent g.mult g.data cnt) :
    gradMulticolRoundTrip g (some cnt) true
      = some (List.zipWith (· + ·) g.data g.data, List.zipWith (· + ·) cnt cnt) := by
  have hw := WF_with_data g h (gradOut g.mult g.data cnt) (gradOut_length _ _ _)
  have hr := multicol_roundtrip _ hw
  simp only [gradMulticolRoundTrip]
  simp only at hr
  rw [hr]
  simp [gradInAdd, countInAdd, grad_out_in _ _ _ hc]

/-- without a count grid the file carries the data itself -/
theorem grad_multicol_nocount (g : GridFile ℝ) (h : WF g) (add : Bool) :
    gradMulticolRoundTrip g none add
      = some (if add then List.zipWith (· + ·) g.data g.data else g.data, []) := by
  have hr := multicol_roundtrip g h
  simp only [gradMulticolRoundTrip]
  rw [hr]
  cases add <;> simp

/-- raw and restart forms of a gradient grid linked to its count grid -/
theorem grad_raw_roundtrip (g : GridFile ℝ) (h : WF g) (cnt : List Nat) (hc : GradConsistent g.mult g.data cnt)
    (restart : Bool) :
    gradRawRoundTrip g (some cnt) restart = some (g.data, cnt) := by
  have hw := WF_with_data g h (gradOut g.mult g.data cnt) (gradOut_length _ _ _)
  cases restart with
  | false =>
    have hr := raw_roundtrip _ hw { g with data := [] } rfl
    simp only [gradRawRoundTrip]
    simp only [Bool.false_eq_true, if_false]
    rw [hr]
    simp only [grad_out_in _ _ _ hc]
  | true =>
    have hw' : WF { g with per := g.per.map (fun _ => false), data := gradOut g.mult g.data cnt } :=
      ⟨hw.lo, hw.w, by simpa using h.per, hw.pos, hw.data⟩
    have hr := restart_roundtrip _ hw'
    have he : encodeRestart { g with per := g.per.map (fun _ => false), data := gradOut g.mult g.data cnt }
        = encodeRestart { g with data := gradOut g.mult g.data cnt } := rfl
    rw [he] at hr
    simp only [gradRawRoundTrip]
    simp only [if_true]
    rw [hr]
    simp only [grad_out_in _ _ _ hc]

/-- the premises are satisfiable: a 2 x 1 grid of two variables, one point without samples -/
example : GradConsistent 2 [3, -1, 0, 0] [2, 0] := by
  intro a ha h0
  match a, ha, h0 with
  | 0, _, h0 => exact absurd h0 (by decide)
  | 1, _, h0 => exact absurd h0 (by decide)
  | 2, _, _ => rfl
  | 3, _, _ => rfl
  | _ + 4, ha, _ => exact absurd ha (by simp)

end IO

end Cv.C15
