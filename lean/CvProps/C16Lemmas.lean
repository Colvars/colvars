import CvProps.GridLemmas
/-!
# Helper lemmas for C16 (PMF integration), namespace `Cv.Integ.L`

`Cv.C16.LinOp` stands first because the invariant `CgInv` of the conjugate-gradient loop is stated over it.
-/
open Cv Cv.Integ

namespace Cv.C16

/-- what the solver needs from the operator -/
structure LinOp (L : List ℝ → List ℝ) (n : Nat) : Prop where
  len : ∀ x, x.length = n → (L x).length = n
  lin : ∀ a x p, x.length = n → p.length = n → L (axpy a p x) = axpy a (L p) (L x)

end Cv.C16

namespace Cv.Integ.L
open Cv.C15 Cv.C16

/-! ## the Laplacian -/

/-- a three-point formula whose weights sum to zero: all that `stencil_const` and `stencil_linear` need -/
theorem stencil_three_point (pnx : List Int) (per : List Bool) (p : Idx) (d : Nat) :
    ∃ (cm cp : ℝ) (qm qp : Idx), ∀ A : Idx → ℝ,
      stencil pnx per A p d = cm * A qm + cp * A qp - (cm + cp) * A p := by
  by_cases h1 : per.getD d false = true
  · exact ⟨1, 1, wrapIdx pnx per (shiftIdx p d (-1)), wrapIdx pnx per (shiftIdx p d 1), fun A => by
      rw [stencil, if_pos h1, lit_two]; ring⟩
  · by_cases h2 : (p.getD d 0 == 0) = true
    · exact ⟨0, 1, p, shiftIdx p d 1, fun A => by rw [stencil, if_neg h1, if_pos h2]; ring⟩
    · by_cases h3 : (p.getD d 0 == pnx.getD d 0 - 1) = true
      · exact ⟨1, 0, shiftIdx p d (-1), p, fun A => by rw [stencil, if_neg h1, if_neg h2, if_pos h3]; ring⟩
      · exact ⟨1, 1, shiftIdx p d (-1), shiftIdx p d 1, fun A => by
          rw [stencil, if_neg h1, if_neg h2, if_neg h3, lit_two]; ring⟩

theorem stencil_const (pnx : List Int) (per : List Bool) (c : ℝ) (p : Idx) (d : Nat) :
    stencil pnx per (fun _ => c) p d = 0 := by
  obtain ⟨cm, cp, qm, qp, h⟩ := stencil_three_point pnx per p d
  rw [h]
  ring

theorem stencil_linear (pnx : List Int) (per : List Bool) (A B : Idx → ℝ) (a : ℝ) (p : Idx) (d : Nat) :
    stencil pnx per (fun q => A q + a * B q) p d = stencil pnx per A p d + a * stencil pnx per B p d := by
  obtain ⟨cm, cp, qm, qp, h⟩ := stencil_three_point pnx per p d
  rw [h, h, h]
  ring

theorem lapAt_eq_sum (pnx : List Int) (per : List Bool) (w : List ℝ) (A : Idx → ℝ) (p : Idx) :
    lapAt pnx per w A p = ((List.range pnx.length).map fun d =>
      lapFact pnx per p d * (1.0 / (w.getD d 1.0 * w.getD d 1.0)) * stencil pnx per A p d).sum := by
  rw [lapAt, foldl_add_zero]

/-! ## `atimes`, conjugate gradients -/

theorem axpy_length (a : ℝ) (p x : List ℝ) : (axpy a p x).length = min x.length p.length := by
  simp [axpy]

theorem axpy_getD (a : ℝ) (p x : List ℝ) (h : x.length = p.length) (k : Nat) :
    (axpy a p x).getD k 0.0 = x.getD k 0.0 + a * p.getD k 0.0 := by
  have e : axpy a p x = List.zipWith (· + ·) x (p.map (a * ·)) := List.zipWith_map_right.symm
  rw [lit_zero, e, getD_zipWith_add _ _ (by rw [List.length_map]; exact h), List.getD_eq_getElem?_getD (l := p.map _),
    List.getD_eq_getElem?_getD (l := p), List.getElem?_map]
  cases p[k]? with
  | none => exact congrArg _ (mul_zero a).symm
  | some y => rfl

theorem vget_axpy (a : ℝ) (p x : List ℝ) (h : x.length = p.length) (i : Int) :
    vget (axpy a p x) i = vget x i + a * vget p i := by
  unfold vget
  by_cases hi : i < 0
  · rw [if_pos hi, if_pos hi, if_pos hi, lit_zero, mul_zero, add_zero]
  · rw [if_neg hi, if_neg hi, if_neg hi]
    exact axpy_getD a p x h _

theorem zipWith_sub_axpy (ak : ℝ) (b u z : List ℝ) :
    axpy (-ak) z (List.zipWith (· - ·) b u) = List.zipWith (· - ·) b (axpy ak z u) := by
  rw [axpy, axpy, List.zipWith_zipWith_left, List.zipWith_zipWith_right]
  congr
  funext b u z
  ring

/-- what every pass of the loop of `nr_linbcg_sym` keeps; `residual`: the updated `r` is the true residual `b - L x` -/
structure CgInv (L : List ℝ → List ℝ) (n : Nat) (b : List ℝ) (bnrm tol : ℝ) (s : Cg ℝ) : Prop where
  x_len : s.x.length = n
  r_len : s.r.length = n
  p_len : s.p.length = n
  residual : s.r = List.zipWith (· - ·) b (L s.x)
  stopped : s.stop = true → l2norm s.r / bnrm ≤ tol

theorem cgIter_inv (L : List ℝ → List ℝ) (n : Nat) (hL : LinOp L n)
    (b : List ℝ) (bnrm tol : ℝ) (s : Cg ℝ) (h : CgInv L n b bnrm tol s) :
    CgInv L n b bnrm tol (cgIter L bnrm tol s) := by
  -- the `let p := …` of `cgIter` (Integrate.lean), copied: keep in step
  have hp' : (if (s.iter + 1 == 1) = true then s.r else axpy (dotL s.r s.r / s.bkden) s.p s.r).length = n := by
    split_ifs
    · exact h.r_len
    · rw [axpy_length, h.r_len, h.p_len]; simp
  unfold cgIter
  refine ⟨?_, ?_, hp', ?_, ?_⟩
  · simp only [axpy_length, h.x_len, hp']; simp
  · simp only [axpy_length, h.r_len, hL.len _ hp']; simp
  · simp only
    rw [hL.lin _ _ _ h.x_len hp', ← zipWith_sub_axpy, ← h.residual]
  · simp only [decide_eq_true_eq]
    exact id

theorem cgLoop_inv (L : List ℝ → List ℝ) (n : Nat) (hL : LinOp L n)
    (b : List ℝ) (bnrm tol : ℝ) : ∀ (fuel : Nat) (s : Cg ℝ), CgInv L n b bnrm tol s →
    CgInv L n b bnrm tol (cgLoop L bnrm tol fuel s)
  | 0, s, h => h
  | fuel + 1, s, h => by
    unfold cgLoop
    split_ifs
    · exact h
    · exact cgLoop_inv L n hL b bnrm tol fuel _ (cgIter_inv L n hL b bnrm tol s h)

theorem cgSolve_inv (L : List ℝ → List ℝ) (n : Nat) (hL : LinOp L n)
    (b x0 : List ℝ) (tol : ℝ) (itmax : Nat) (hb : b.length = n) (hx : x0.length = n) :
    CgInv L n b (l2norm b) tol (cgSolve L b x0 tol itmax) := by
  have h0 : CgInv L n b (l2norm b) tol
      { x := x0, r := List.zipWith (· - ·) b (L x0), p := List.zipWith (· - ·) b (L x0),
        bkden := 1.0, iter := 0, err := 0.0, stop := false } := by
    refine ⟨hx, ?_, ?_, rfl, by simp⟩ <;> simp [hb, hL.len _ hx]
  unfold cgSolve
  simp only
  split_ifs
  · exact h0
  · exact cgLoop_inv L n hL b _ tol itmax _ h0

theorem cgSolve_stop_pos (L : List ℝ → List ℝ) (b x0 : List ℝ) (tol : ℝ) (itmax : Nat)
    (h : (cgSolve L b x0 tol itmax).stop = true) : 0 < l2norm b := by
  unfold cgSolve at h
  by_cases hlt : l2norm b < 1.0e-14
  · simp [hlt] at h
  · have : (1.0e-14 : ℝ) ≤ l2norm b := not_lt.1 hlt
    have h2 : (0:ℝ) < 1.0e-14 := by norm_num
    exact lt_of_lt_of_le h2 this

/-! ## one dimension -/

theorem prefixSums_length : ∀ (acc : ℝ) (vs : List ℝ), (prefixSums acc vs).length = vs.length + 1
  | _, [] => rfl
  | acc, v :: vs => by simp [prefixSums, prefixSums_length (acc + v) vs]

theorem prefixSums_getD : ∀ (acc : ℝ) (vs : List ℝ) (i : Nat), i ≤ vs.length →
    (prefixSums acc vs).getD i 0 = acc + (vs.take i).sum
  | acc, [], i, h => by
    have : i = 0 := by simpa using h
    subst this; simp [prefixSums]
  | acc, v :: vs, 0, _ => by simp [prefixSums]
  | acc, v :: vs, i + 1, h => by
    have := prefixSums_getD (acc + v) vs i (by simpa using h)
    simp only [prefixSums, List.getD_cons_succ, this, List.take_succ_cons, List.sum_cons]
    ring

/-- the normal form from which the three one-dimensional theorems of C16 start -/
theorem integrate1D_eq (g : GGrid ℝ) (sm csm : Bool) (n : Nat) (w : ℝ) (per : Bool)
    (hnx : g.shape.nx = [(n : Int)]) (hper : g.shape.per = [per]) (hw : g.w = [w]) :
    integrate1D g sm csm =
      (if per then
        (prefixSums 0 ((List.range n).map fun i => (valOut g sm i - average1D g csm n) * w)).take n
      else prefixSums 0 ((List.range n).map fun i => (valOut g sm i - 0) * w)) := by
  unfold integrate1D
  simp only [hnx, hper, hw, List.getD_cons_zero, Int.toNat_natCast]
  cases per <;> simp only [if_true, if_false, Bool.false_eq_true, lit_zero]

/-! ## corners and `wrap_detect_edge` -/

theorem mem_cornersDown_succ (n : Nat) (c : Idx) :
    c ∈ cornersDown (n + 1) ↔ ∃ c' ∈ cornersDown n, c = (-1) :: c' ∨ c = 0 :: c' := by
  simp [cornersDown]

theorem mem_cornersUp_succ (n : Nat) (c : Idx) :
    c ∈ cornersUp (n + 1) ↔ ∃ c' ∈ cornersUp n, c = 0 :: c' ∨ c = 1 :: c' := by
  simp [cornersUp]

@[simp] theorem mem_cornersDown_zero (c : Idx) : c ∈ cornersDown 0 ↔ c = [] := by simp [cornersDown]
@[simp] theorem mem_cornersUp_zero (c : Idx) : c ∈ cornersUp 0 ↔ c = [] := by simp [cornersUp]

theorem wrapEdge_cons (n : Int) (ns : List Int) (p : Bool) (ps : List Bool) (i : Int) (is : Idx) :
    wrapEdge (n :: ns) (p :: ps) (i :: is) =
      match wrapEdge ns ps is with
      | none => none
      | some r =>
        if p then some (Int.tmod (i + n) n :: r)
        else if i < 0 ∨ i ≥ n then none else some (i :: r) := rfl

theorem wrapIdx_cons (n : Int) (ns : List Int) (p : Bool) (ps : List Bool) (i : Int) (is : Idx) :
    wrapIdx (n :: ns) (p :: ps) (i :: is) = (if p then Int.tmod (i + n) n else i) :: wrapIdx ns ps is := rfl

theorem addIdx_cons (a b : Int) (as bs : Idx) : addIdx (a :: as) (b :: bs) = (a + b) :: addIdx as bs := rfl

/-- on a periodic dimension the bin below (`c = -1`) or at (`c = 0`) point `q` has `q` as upper or lower point -/
theorem tmod_wrap_back (n q c : Int) (h0 : 0 ≤ q) (h1 : q < n) (hc : c = -1 ∨ c = 0) :
    Int.tmod (Int.tmod (q + c + n) n + -c + n) n = q := by
  have hb : 0 ≤ q + c + n := by omega
  rw [Int.tmod_eq_emod_of_nonneg hb,
    Int.tmod_eq_emod_of_nonneg (by have := Int.emod_nonneg (q + c + n) (by omega : n ≠ 0); omega),
    Int.add_assoc, Int.emod_add_emod, show q + c + n + (-c + n) = q + n + n by ring, Int.add_emod_right,
    Int.add_emod_right, Int.emod_eq_of_lt h0 h1]

theorem neg_mem_cornersUp : ∀ (n : Nat) (c : Idx), c ∈ cornersDown n → c.map (fun x => -x) ∈ cornersUp n
  | 0, c, h => by
    rw [mem_cornersDown_zero] at h
    subst h
    exact (mem_cornersUp_zero _).2 rfl
  | n + 1, c, h => by
    obtain ⟨c', hc', h | h⟩ := (mem_cornersDown_succ n c).1 h <;> subst h
    · exact (mem_cornersUp_succ n _).2 ⟨_, neg_mem_cornersUp n c' hc', Or.inr rfl⟩
    · exact (mem_cornersUp_succ n _).2 ⟨_, neg_mem_cornersUp n c' hc', Or.inl rfl⟩

/-- if the point `q` sees the bin `b` through the corner `c`, then `b` sees `q` through `-c`, dimension by dimension -/
theorem wrapIdx_add_neg_corner : ∀ (nx : List Int) (per : List Bool) (q c b : Idx),
    per.length = nx.length →
    indexOk (List.zipWith (fun n p => if p then n else n + 1) nx per) q = true →
    c ∈ cornersDown nx.length → wrapEdge nx per (addIdx q c) = some b →
    q = wrapIdx (List.zipWith (fun n p => if p then n else n + 1) nx per) per (addIdx b (c.map fun x => -x))
  | [], per, q, _, b, hl, hq, _, _ => by
    cases per with
    | cons _ _ => simp at hl
    | nil =>
      cases q with
      | cons _ _ => simp at hq
      | nil => cases b <;> rfl
  | n :: ns, per, q, c, b, hl, hq, hc, hb => by
    match per, q, hl, hq, hb with
    | [], _, hl, _, _ => simp at hl
    | _ :: _, [], _, hq, _ => simp at hq
    | p :: ps, qi :: qs, hl, hq, hb =>
      rw [List.zipWith_cons_cons, indexOk_cons] at hq
      obtain ⟨hq0, hq1, hqs⟩ := hq
      obtain ⟨c', hc', hcc⟩ := (mem_cornersDown_succ _ _).1 hc
      obtain ⟨ci, hci, rfl⟩ : ∃ ci : Int, (ci = -1 ∨ ci = 0) ∧ c = ci :: c' :=
        hcc.elim (fun h => ⟨-1, Or.inl rfl, h⟩) (fun h => ⟨0, Or.inr rfl, h⟩)
      rw [addIdx_cons, wrapEdge_cons] at hb
      cases hr : wrapEdge ns ps (addIdx qs c') with
      | none => rw [hr] at hb; cases hb
      | some r =>
        rw [hr] at hb
        have ih := wrapIdx_add_neg_corner ns ps qs c' r (by simpa using hl) hqs hc' hr
        cases p with
        | true =>
          rw [if_pos rfl] at hq1
          obtain rfl : Int.tmod (qi + ci + n) n :: r = b := Option.some.inj hb
          rw [List.zipWith_cons_cons, List.map_cons, addIdx_cons, wrapIdx_cons, ← ih, if_pos rfl, if_pos rfl,
            tmod_wrap_back n qi ci hq0 hq1 hci]
        | false =>
          replace hb : (if qi + ci < 0 ∨ qi + ci ≥ n then none else some ((qi + ci) :: r)) = some b := hb
          split_ifs at hb with hout
          obtain rfl : (qi + ci) :: r = b := Option.some.inj hb
          rw [List.zipWith_cons_cons, List.map_cons, addIdx_cons, wrapIdx_cons, ← ih, if_neg Bool.false_ne_true,
            Int.add_neg_cancel_right]

/-! ## divergence bookkeeping -/

theorem foldl_updateDivLocal (g : GGrid ℝ) (sm : Bool) : ∀ (pts : List Idx) (dv : DivF ℝ) (q : Idx),
    (pts.foldl (fun d p => updateDivLocal g sm d p) dv) q = if q ∈ pts then divLocal g sm q else dv q
  | [], dv, q => by simp
  | p :: ps, dv, q => by
    rw [List.foldl_cons, foldl_updateDivLocal g sm ps]
    by_cases h1 : q ∈ ps
    · simp [h1]
    · by_cases h2 : q = p
      · subst h2; simp [updateDivLocal]
      · simp [h1, h2, updateDivLocal]

theorem updateDivNeighbors_eq (g : GGrid ℝ) (sm : Bool) (dv : DivF ℝ) (b q : Idx) :
    updateDivNeighbors g sm dv b q =
      if (∃ e ∈ cornersUp g.shape.nd, q = wrapIdx g.shape.pmfNx g.shape.per (addIdx b e))
      then divLocal g sm q else dv q := by
  unfold updateDivNeighbors
  have := foldl_updateDivLocal g sm
    ((cornersUp g.shape.nd).map fun e => wrapIdx g.shape.pmfNx g.shape.per (addIdx b e)) dv q
  rw [List.foldl_map] at this
  rw [this]
  simp only [List.mem_map, eq_comm]

theorem gradAt_accForce_of_ne (g : GGrid ℝ) (sm : Bool) (b : Idx) (f : List ℝ) (ix : Idx)
    (h : wrapEdge g.shape.nx g.shape.per ix ≠ some b) :
    gradAt (accForce g b f) sm ix = gradAt g sm ix := by
  unfold gradAt
  show (match wrapEdge g.shape.nx g.shape.per ix with
    | none => _
    | some j => _) = _
  cases hj : wrapEdge g.shape.nx g.shape.per ix with
  | none => rfl
  | some j =>
    have hne : j ≠ b := by
      intro e; apply h; rw [hj, e]
    simp [accForce, hne]

theorem zipWith_sub_sub (s a b : List ℝ) :
    List.zipWith (· - ·) (List.zipWith (· - ·) s a) b = List.zipWith (· - ·) s (List.zipWith (· + ·) a b) := by
  rw [List.zipWith_zipWith_left, List.zipWith_zipWith_right]
  congr
  funext s a b
  ring

theorem zipWith_sub_comm (s a b : List ℝ) :
    List.zipWith (· - ·) (List.zipWith (· - ·) s a) b = List.zipWith (· - ·) (List.zipWith (· - ·) s b) a := by
  rw [zipWith_sub_sub, zipWith_sub_sub, List.zipWith_comm_of_comm add_comm]

theorem ite_update_comm {α β : Type} [DecidableEq α] (h : α → β) (b1 b2 : α) (F1 F2 : β → β)
    (hc : ∀ x, F2 (F1 x) = F1 (F2 x)) (j : α) :
    (if j = b2 then F2 (if j = b1 then F1 (h j) else h j) else if j = b1 then F1 (h j) else h j) =
      if j = b1 then F1 (if j = b2 then F2 (h j) else h j) else if j = b2 then F2 (h j) else h j := by
  by_cases h1 : j = b1
  · by_cases h2 : j = b2
    · simp only [if_pos h1, if_pos h2, hc]
    · simp only [if_pos h1, if_neg h2]
  · simp only [if_neg h1]

theorem accForce_comm (g : GGrid ℝ) (b1 b2 : Idx) (f1 f2 : List ℝ) :
    accForce (accForce g b1 f1) b2 f2 = accForce (accForce g b2 f2) b1 f1 := by
  unfold accForce
  simp only [GGrid.mk.injEq, true_and]
  exact ⟨funext fun j => ite_update_comm g.sum b1 b2 (List.zipWith (· - ·) · f1) (List.zipWith (· - ·) · f2)
      (fun x => zipWith_sub_comm x f1 f2) j,
    funext fun j => ite_update_comm g.cnt b1 b2 (· + 1) (· + 1) (fun _ => rfl) j⟩

theorem samples_fst (sm : Bool) : ∀ (l : List (Idx × List ℝ)) (st : GGrid ℝ × DivF ℝ),
    (samples sm st l).1 = l.foldl (fun g bf => accForce g bf.1 bf.2) st.1
  | [], st => rfl
  | bf :: l, st => by
    unfold samples
    rw [List.foldl_cons, List.foldl_cons]
    exact samples_fst sm l (sample sm st bf)

theorem samples_fst_perm (sm : Bool) (l₁ l₂ : List (Idx × List ℝ)) (hp : l₁.Perm l₂)
    (st : GGrid ℝ × DivF ℝ) : (samples sm st l₁).1 = (samples sm st l₂).1 := by
  rw [samples_fst, samples_fst]
  apply List.Perm.foldl_eq' hp
  intro x _ y _ z
  exact accForce_comm z x.1 y.1 x.2 y.2

theorem foldl_accForce_shape : ∀ (l : List (Idx × List ℝ)) (g : GGrid ℝ),
    (l.foldl (fun g bf => accForce g bf.1 bf.2) g).shape = g.shape ∧
    (l.foldl (fun g bf => accForce g bf.1 bf.2) g).w = g.w
  | [], g => ⟨rfl, rfl⟩
  | bf :: l, g => by
    rw [List.foldl_cons]
    exact foldl_accForce_shape l _

end Cv.Integ.L
