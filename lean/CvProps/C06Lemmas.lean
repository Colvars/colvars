import CvProps.ValueLemmas
/-!
# Helper lemmas for C06 (restraints) over `ℝ`

The two updates by one equation per mode; along a history, the clock and the stage as a capped counter of the step.
-/
open Cv

namespace Cv.C06

open Cv.C18

/-- number of operations that advance the step counter (the first call of the first run does not) -/
def advances : List (ROp ℝ) → Nat
  | [] => 0
  | ROp.step _ :: r => 1 + advances r
  | _ :: r => advances r

/-- the sample a step contributes to the current stage's accumulator -/
noncomputable def tiSample (p : RParams ℝ) (s : RState ℝ) (xs : List ℝ) : ℝ :=
  p.lambdaExp * (stageLambda p s.stage) ^ (p.lambdaExp - 1) * (p.targetK - p.startK) * sumDUdk p s.centers xs

/-! ## integer division along a counter -/

theorem succ_ediv_emod {T n : Int} (hn : 0 < n) :
    ((T + 1) / n = T / n + 1 ∧ (T + 1) % n = 0 ∧ T % n = n - 1) ∨
    ((T + 1) / n = T / n ∧ (T + 1) % n = T % n + 1) := by
  have h0 := Int.emod_nonneg T hn.ne'
  have h1 := Int.emod_lt_of_pos T hn
  have h2 := Int.emod_add_mul_ediv T n
  by_cases h : T % n + 1 = n
  · left
    have := (Int.ediv_emod_unique (a := T + 1) (r := 0) (q := T / n + 1) hn).2 ⟨by rw [Int.mul_add]; omega, le_rfl, hn⟩
    exact ⟨this.1, this.2, by omega⟩
  · right
    exact (Int.ediv_emod_unique hn).2 ⟨by omega, by omega, by omega⟩

theorem counter_step {T n N st : Int} (hn : 0 < n) (h : st = min (T / n) N) :
    (if (T + 1) % n = 0 ∧ st < N then st + 1 else st) = min ((T + 1) / n) N := by
  rcases succ_ediv_emod (T := T) hn with ⟨hq, hr, -⟩ | ⟨hq, hr⟩
  · -- a multiple of `n` is reached: the quotient grows by one, and so does the counter unless it is at the cap
    rw [hq]
    by_cases hN : st < N
    · rw [if_pos ⟨hr, hN⟩]; omega
    · rw [if_neg fun hc => hN hc.2]; omega
  · -- no multiple of `n`: the quotient stands, and so does the counter
    have hr' : (T + 1) % n ≠ 0 := by have := Int.emod_nonneg T hn.ne'; omega
    rw [hq, if_neg fun hc => hr' hc.1]
    exact h

theorem succ_emod_eq_one {T n : Int} (hn : 1 < n) : (T + 1) % n = 1 ↔ T % n = 0 := by
  rcases succ_ediv_emod (T := T) (n := n) (by omega) with ⟨-, h2, h3⟩ | ⟨-, h2⟩ <;> omega

/-- `counter_step` one step later, from 1 -/
theorem counter_step_succ {T n N st : Int} (hn : 1 < n) (h : st = min ((T - 1) / n + 1) (N + 1)) :
    (if st ≤ N ∧ (T + 1) % n = 1 then st + 1 else st) = min (T / n + 1) (N + 1) := by
  have hc := counter_step (T := T - 1) (n := n) (N := N) (st := st - 1) (by omega) (by omega)
  rw [sub_add_cancel] at hc
  have e : (st ≤ N ∧ (T + 1) % n = 1) ↔ (T % n = 0 ∧ st - 1 < N) := by
    rw [succ_emod_eq_one hn, and_comm, Int.sub_one_lt_iff]
  rw [min_add_add_right, ← hc]
  simp only [e]
  split_ifs <;> ring

/-! ## the harmonic restraint -/

theorem hasDerivAt_rPotential_harmonic (p : RParams ℝ) (hk : p.kind = .harmonic) (k : ℝ) (cs : List ℝ) (i : Nat) (x : ℝ)
    (hcut : ∀ P, p.per.getD i none = some P → ∀ n : ℤ, (x - cs.getD i 0.0) / P + 0.5 ≠ n) :
    HasDerivAt (fun y => rPotential p k cs i y) (- rForce p k cs i x) x := by
  unfold rPotential rForce
  simp only [hk]
  exact ((hasDerivAt_dist2S _ x _ hcut).const_mul _).congr_deriv (by ring)

/-! ## the wall restraint through its wall distance -/

theorem wallDistance_nonperiodic (p : RParams ℝ) (i : Nat) (x : ℝ) (hp : p.per.getD i none = none) :
    wallDistance p i x =
      match p.lowerWalls.map (·.getD i 0.0), p.upperWalls.map (·.getD i 0.0) with
      | some l, some u => if x < l then x - l else if u < x then x - u else 0
      | some l, none => if x < l then x - l else 0
      | none, some u => if u < x then x - u else 0
      | none, none => 0 := by
  unfold wallDistance
  simp only [hp]
  cases p.lowerWalls.map (·.getD i 0.0) <;> cases p.upperWalls.map (·.getD i 0.0) <;>
    simp only [Option.map_some, Option.map_none, half_dist2SGrad_none, dist2SGrad_none_neg, dist2SGrad_none_pos, lit_zero]

theorem walls_of_distance (p : RParams ℝ) (hk : p.kind = .walls) (k : ℝ) (cs : List ℝ) (i : Nat) (x d : ℝ)
    (hd : wallDistance p i x = d) :
    rPotential p k cs i x =
      0.5 * k * (if d > 0 then p.upperK else p.lowerK) / (p.widths.getD i 1 * p.widths.getD i 1) * d ^ 2 ∧
    rForce p k cs i x = -(k * (if d > 0 then p.upperK else p.lowerK) / (p.widths.getD i 1 * p.widths.getD i 1) * d) := by
  unfold rPotential rForce
  simp only [hk, hd, lit_one, lit_zero]
  constructor <;> ring

/-! ## the two updates, one equation per mode -/

section Updates
-- explicit: these equations are rewritten with
variable (p : RParams ℝ) (c : Clock) (s : RState ℝ) (xs tgt : List ℝ)

/-- step 0 of a later run, or a continuation -/
def repeated (p : RParams ℝ) (c : Clock) : Bool :=
  (decide (c.stepRelative = 0) && decide (c.it > p.firstStep)) || c.cont

/-- the step enters the TI accumulator -/
def samples (p : RParams ℝ) (c : Clock) : Prop :=
  repeated p c = false ∧ (c.it > p.firstStep ∨ p.equil > 0) ∧
    (p.equil = 0 ∨ Int.tmod (c.it - p.firstStep) p.nsteps ≥ p.equil)

instance : Decidable (samples p c) := inferInstanceAs (Decidable (_ ∧ _ ∧ _))

/-- the step closes its stage -/
def closes (p : RParams ℝ) (c : Clock) : Prop :=
  repeated p c = false ∧ Int.tmod (c.it - p.firstStep) p.nsteps = 0 ∧ c.it > p.firstStep

instance : Decidable (closes p c) := inferInstanceAs (Decidable (_ ∧ _ ∧ _))

theorem stageLambda_zero :
    stageLambda p 0 = if p.lambdaSchedule.length ≠ 0 then p.lambdaSchedule.getD 0 0.0
                       else (if p.decoupling then 1.0 else 0.0) := by
  unfold stageLambda
  split_ifs <;> simp [lit_zero]

/-- the staged force-constant update, field by field -/
noncomputable def kStaged (p : RParams ℝ) (c : Clock) (s : RState ℝ) (xs : List ℝ) : RState ℝ :=
  let fe := s.restraintFE + if samples p c then tiSample p s xs else 0
  { s with
    k := if closes p c ∧ s.stage < p.nstages then kOfLambda p (stageLambda p (s.stage + 1))
         else if c.it = p.firstStep then kOfLambda p (stageLambda p 0) else s.k
    stage := if closes p c ∧ s.stage < p.nstages then s.stage + 1 else s.stage
    restraintFE := if closes p c then 0 else fe
    tiOut := if closes p c then s.tiOut ++ [(stageLambda p s.stage, fe / ((p.nsteps - p.equil : Int) : ℝ))]
             else s.tiOut }

/-- the force-constant update without stages -/
noncomputable def kCont (p : RParams ℝ) (c : Clock) (s : RState ℝ) : RState ℝ :=
  if c.it - p.firstStep ≤ p.nsteps then
    let l0 : ℝ := ((c.it - p.firstStep : Int) : ℝ) / (p.nsteps : ℝ)
    let knew := kOfLambda p (if p.decoupling then 1.0 - l0 else l0)
    { s with k := knew, kIncr := knew - s.k }
  else { s with kIncr := 0.0 }

theorem kmu_off (h : p.chgK = false) : kMovingUpdate p c s xs = s := by
  unfold kMovingUpdate; simp [h]

theorem kmu_cont (hc : p.chgK = true) (hst : p.nstages = 0) : kMovingUpdate p c s xs = kCont p c s := by
  unfold kMovingUpdate kCont
  simp only [hc, hst, ne_eq, not_true_eq_false, if_false, Bool.not_true, Bool.false_eq_true]

/-- The one place where the nested `if` of the staged update is split: first step, sampled, closing, last stage or
    not; each of the sixteen cases is read off the definition. -/
theorem kmu_staged (hc : p.chgK = true) (hs : p.nstages ≠ 0) : kMovingUpdate p c s xs = kStaged p c s xs := by
  unfold kMovingUpdate kStaged tiSample
  rw [stageLambda_zero]
  simp only [hc, hs, ne_eq, not_false_eq_true, if_true, Bool.not_true, Bool.false_eq_true, if_false]
  have e1 : (repeated p c = false ∧ Int.tmod (c.it - p.firstStep) p.nsteps = 0 ∧ c.it > p.firstStep) = closes p c := rfl
  have e2 : (repeated p c = false ∧ (c.it > p.firstStep ∨ p.equil > 0) ∧
      (p.equil = 0 ∨ Int.tmod (c.it - p.firstStep) p.nsteps ≥ p.equil)) = samples p c := rfl
  unfold repeated at e1 e2
  simp only [e1, e2]
  by_cases h1 : closes p c <;> by_cases h2 : samples p c <;> by_cases h3 : c.it = p.firstStep <;>
    by_cases h4 : s.stage < p.nstages <;>
    simp only [h1, h2, h3, h4, if_true, if_false, and_self, and_false, and_true, prim_pow, lit_one, lit_zero, add_zero]

/-- every leaf of the nested `if` is `s` with other fields updated: the projection goes through to the leaves -/
theorem kmu_accWork : (kMovingUpdate p c s xs).accWork = s.accWork := by
  simp only [kMovingUpdate, apply_ite RState.accWork, ite_self]

theorem updateCenters_accWork (p : RParams ℝ) (s : RState ℝ) (tgt : List ℝ) (lam : ℝ) :
    (updateCenters p s tgt lam).accWork = s.accWork := rfl

/-- the centres `update_centers(λ)` sets -/
noncomputable def centersAt (p : RParams ℝ) (tgt : List ℝ) (lam : ℝ) : List ℝ :=
  List.zipWith (fun (pc : Option ℝ × ℝ) x => wrapVar pc.1 pc.2 x) (p.per.zip p.wrapC)
    (List.zipWith (fun c0 c1 => lerpS c0 c1 lam) p.centers0 tgt)

/-- the step moves staged centres -/
def cFires (p : RParams ℝ) (c : Clock) : Prop :=
  c.stepRelative > 0 ∧ c.cont = false ∧ Int.tmod (c.it - p.firstStep) p.nsteps = 1

instance : Decidable (cFires p c) := inferInstanceAs (Decidable (_ ∧ _ ∧ _))

/-- the staged branch of `centersMovingUpdate` -/
noncomputable def cStagedPhase (p : RParams ℝ) (c : Clock) (s : RState ℝ) (tgt : List ℝ) : RState ℝ :=
  if s.stage ≤ p.nstages then
    if cFires p c then
      { updateCenters p s tgt ((s.stage : ℝ) / (p.nstages : ℝ)) with stage := s.stage + 1 }
    else { s with centersIncr := zeros (nvarsR p) }
  else s

/-- its continuous branch -/
noncomputable def cContPhase (p : RParams ℝ) (c : Clock) (s : RState ℝ) (tgt : List ℝ) : RState ℝ :=
  if c.it - p.firstStep ≤ p.nsteps then
    updateCenters p s tgt (((c.it - p.firstStep : Int) : ℝ) / (p.nsteps : ℝ))
  else { s with centersIncr := zeros (nvarsR p) }

/-- its last step: no increment at step 0 of a run -/
noncomputable def cZero (p : RParams ℝ) (c : Clock) (s : RState ℝ) : RState ℝ :=
  if c.stepRelative = 0 then { s with centersIncr := zeros (nvarsR p) } else s

theorem cmu_none (h : p.targetCenters = none) : centersMovingUpdate p c s = s := by
  unfold centersMovingUpdate; rw [h]

theorem cmu_some (ht : p.targetCenters = some tgt) : centersMovingUpdate p c s =
    cZero p c (if p.nstages ≠ 0 then cStagedPhase p c s tgt else cContPhase p c s tgt) := by
  unfold centersMovingUpdate; rw [ht]; rfl

theorem cZero_eq : cZero p c s =
    { s with centersIncr := if c.stepRelative = 0 then zeros (nvarsR p) else s.centersIncr } := by
  unfold cZero; split_ifs <;> rfl

theorem cmu_staged (ht : p.targetCenters = some tgt) (hs : p.nstages ≠ 0) :
    (centersMovingUpdate p c s).stage =
      (if s.stage ≤ p.nstages ∧ cFires p c then s.stage + 1 else s.stage) ∧
    (centersMovingUpdate p c s).centers =
      (if s.stage ≤ p.nstages ∧ cFires p c then centersAt p tgt ((s.stage : ℝ) / (p.nstages : ℝ)) else s.centers) := by
  rw [cmu_some p c s tgt ht, if_pos hs, cZero_eq]
  show (cStagedPhase p c s tgt).stage = _ ∧ (cStagedPhase p c s tgt).centers = _
  unfold cStagedPhase
  by_cases h1 : s.stage ≤ p.nstages
  · by_cases h2 : cFires p c
    · rw [if_pos h1, if_pos h2, if_pos ⟨h1, h2⟩, if_pos ⟨h1, h2⟩]; exact ⟨rfl, rfl⟩
    · rw [if_pos h1, if_neg h2, if_neg (fun h => h2 h.2), if_neg (fun h => h2 h.2)]; exact ⟨rfl, rfl⟩
  · rw [if_neg h1, if_neg (fun h => h1 h.1), if_neg (fun h => h1 h.1)]; exact ⟨rfl, rfl⟩

theorem cmu_accWork : (centersMovingUpdate p c s).accWork = s.accWork := by
  unfold centersMovingUpdate
  cases p.targetCenters with
  | none => rfl
  | some tgt => simp only [apply_ite RState.accWork, updateCenters_accWork, ite_self]

/-- the state the force-constant update starts from -/
noncomputable def preK (p : RParams ℝ) (c : Clock) (s : RState ℝ) : RState ℝ :=
  if p.kind = .walls then s else centersMovingUpdate p c s

theorem restraintStep_fst :
    ∃ w, (restraintStep p c s xs).1 = { kMovingUpdate p c (preK p c s) xs with accWork := w } := ⟨_, rfl⟩

theorem preK_none (h : p.targetCenters = none) : preK p c s = s := by
  unfold preK; rw [cmu_none p c s h]; exact ite_self _

theorem preK_accWork : (preK p c s).accWork = s.accWork := by
  unfold preK
  split_ifs
  · rfl
  · exact cmu_accWork p c s

/-- the work `restraintStep` hands on: its `w1`, `w2` (`CvModel/Restraint.lean`) on the state after both updates -/
theorem restraintStep_accWork :
    (restraintStep p c s xs).1.accWork =
      let s2 := kMovingUpdate p c (preK p c s) xs
      let w1 :=
        if p.targetCenters.isSome ∧ p.kind ≠ .walls ∧ p.outputWork ∧ c.stepRelative > 0 ∧ c.it - p.firstStep ≤ p.nsteps then
          (List.zipWith (· * ·) (restraintStep p c s xs).2.forces s2.centersIncr).foldl (· + ·) s2.accWork
        else s2.accWork
      if p.chgK ∧ p.outputWork ∧ c.stepRelative > 0 then w1 + sumDUdk p s2.centers xs * s2.kIncr else w1 := rfl

end Updates

/-! ## histories: one operation, the clock, invariants along a run -/

section Runs
-- implicit: determined by the hypotheses
variable {p : RParams ℝ}

/- `rApply` by its parts: does it advance the step counter, its values, its clock, the state it starts from -/
def opAdv : ROp ℝ → Nat
  | .step _ => 1
  | _ => 0

def opXs : ROp ℝ → List ℝ
  | .step xs => xs
  | .cont xs => xs
  | .restart xs => xs

def opClock (c : Clock) : ROp ℝ → Clock
  | .step _ => c.tick false
  | .cont _ => c.tick true
  | .restart _ => ({ it := c.it, itRestart := c.it, first := true, cont := false } : Clock).tick false

noncomputable def opPre (p : RParams ℝ) (s : RState ℝ) : ROp ℝ → RState ℝ
  | .restart _ => reloadR p s
  | _ => s

theorem advances_cons (op : ROp ℝ) (ops : List (ROp ℝ)) : advances (op :: ops) = opAdv op + advances ops := by
  cases op <;> simp [advances, opAdv]

theorem rApply_clock (r : RRun ℝ) (op : ROp ℝ) : (rApply p r op).clock = opClock r.clock op := by
  cases op <;> rfl

theorem rApply_s (r : RRun ℝ) (op : ROp ℝ) :
    (rApply p r op).s = (restraintStep p (opClock r.clock op) (opPre p r.s op) (opXs op)).1 := by
  cases op <;> rfl

theorem rRun_cons (r : RRun ℝ) (op : ROp ℝ) (ops : List (ROp ℝ)) :
    rRun p r (op :: ops) = rRun p (rApply p r op) ops := rfl

theorem opPre_stage (s : RState ℝ) (op : ROp ℝ) : (opPre p s op).stage = s.stage := by cases op <;> rfl
theorem opPre_k (s : RState ℝ) (op : ROp ℝ) : (opPre p s op).k = s.k := by cases op <;> rfl
theorem opPre_centers (s : RState ℝ) (op : ROp ℝ) : (opPre p s op).centers = s.centers := by cases op <;> rfl

/-- the clock after `T` advancing steps of a history -/
structure ClockOK (p : RParams ℝ) (c : Clock) (T : Int) : Prop where
  first : c.first = false
  it : c.it = p.firstStep + T
  le : c.itRestart ≤ c.it

/-- an ordinary step: not step 0 of a run, not a continuation -/
def advanced (c : Clock) : Prop := c.stepRelative > 0 ∧ c.cont = false

theorem clockOK_op {c : Clock} {T : Int} (h : ClockOK p c T) (op : ROp ℝ) :
    ClockOK p (opClock c op) (T + (opAdv op : Int)) ∧ (advanced (opClock c op) ↔ opAdv op = 1) := by
  have hle := h.le
  have hit := h.it
  cases op with
  | step xs =>
    -- `it` moves on by one
    have e : opClock c (.step xs) = { c with it := c.it + 1, cont := false } := by
      simp [opClock, Clock.tick, h.first]
    rw [e]
    refine ⟨⟨h.first, ?_, ?_⟩, ?_⟩
    · show c.it + 1 = p.firstStep + (T + 1); omega
    · show c.itRestart ≤ c.it + 1; omega
    · show (c.it + 1 - c.itRestart > 0 ∧ false = false) ↔ 1 = 1
      simp; omega
  | cont xs =>
    -- the clock stands still, marked as continuing
    have e : opClock c (.cont xs) = { c with cont := true } := by simp [opClock, Clock.tick, h.first]
    rw [e]
    exact ⟨⟨h.first, by simpa [opAdv] using hit, hle⟩, by simp [advanced, opAdv]⟩
  | restart xs =>
    -- step 0 of a new run at the step reached
    have e : opClock c (.restart xs) = { it := c.it, itRestart := c.it, first := false, cont := false } := by
      simp [opClock, Clock.tick]
    rw [e]
    exact ⟨⟨rfl, by simpa [opAdv] using hit, le_refl _⟩, by simp [advanced, Clock.stepRelative, opAdv]⟩

theorem clockOK_init (k0 : ℝ) (x0 : List ℝ) : ClockOK p (opClock (rInit p k0).clock (.step x0)) 0 :=
  ⟨rfl, (add_zero _).symm, le_refl _⟩

theorem rRun_induct (p : RParams ℝ) (Inv : RRun ℝ → Int → Prop)
    (hstep : ∀ r T op, 0 ≤ T → ClockOK p r.clock T → Inv r T → Inv (rApply p r op) (T + (opAdv op : Int)))
    (ops : List (ROp ℝ)) (r : RRun ℝ) (T : Int) (hT : 0 ≤ T) (hc : ClockOK p r.clock T) (h : Inv r T) :
    ClockOK p (rRun p r ops).clock (T + (advances ops : Int)) ∧ Inv (rRun p r ops) (T + (advances ops : Int)) := by
  induction ops generalizing r T with
  | nil => simpa [rRun, advances] using ⟨hc, h⟩
  | cons op ops ih =>
    rw [rRun_cons]
    have := ih (rApply p r op) (T + (opAdv op : Int)) (by positivity)
      (by rw [rApply_clock]; exact (clockOK_op hc op).1) (hstep r T op hT hc h)
    simpa [advances_cons, add_assoc] using this

theorem rRun_init_induct (p : RParams ℝ) (Inv : RRun ℝ → Int → Prop)
    (hstep : ∀ r T op, 0 ≤ T → ClockOK p r.clock T → Inv r T → Inv (rApply p r op) (T + (opAdv op : Int)))
    (k0 : ℝ) (x0 : List ℝ) (h0 : Inv (rApply p (rInit p k0) (.step x0)) 0) (ops : List (ROp ℝ)) :
    ClockOK p (rRun p (rInit p k0) (.step x0 :: ops)).clock (advances ops) ∧
      Inv (rRun p (rInit p k0) (.step x0 :: ops)) (advances ops) := by
  have h := rRun_induct p Inv hstep ops _ 0 le_rfl (by rw [rApply_clock]; exact clockOK_init k0 x0) h0
  simpa [rRun_cons] using h

theorem closes_iff {c : Clock} {T : Int} (h : ClockOK p c T) (hT : 0 ≤ T) :
    closes p c ↔ advanced c ∧ T % p.nsteps = 0 ∧ 0 < T := by
  have hle := h.le
  have hsub : c.it - p.firstStep = T := by rw [h.it]; ring
  have hgt : c.it > p.firstStep ↔ 0 < T := by rw [h.it]; omega
  -- past `firstStep`, "not repeated" says: not step 0 of a run (`itRestart ≤ it`), not a continuation
  have hrep : 0 < T → (repeated p c = false ↔ advanced c) := fun h0 => by
    rw [repeated, advanced, Clock.stepRelative, decide_eq_true (hgt.2 h0), Bool.and_true, Bool.or_eq_false_iff,
      decide_eq_false_iff_not]
    exact and_congr_left fun _ => by omega
  rw [closes, hsub, Int.tmod_eq_emod_of_nonneg hT, hgt]
  exact ⟨fun ⟨hr, hm, h0⟩ => ⟨(hrep h0).1 hr, hm, h0⟩, fun ⟨ha, hm, h0⟩ => ⟨(hrep h0).2 ha, hm, h0⟩⟩

theorem cFires_iff {c : Clock} {T : Int} (h : ClockOK p c T) (hT : 0 ≤ T) :
    cFires p c ↔ advanced c ∧ T % p.nsteps = 1 := by
  have hsub : c.it - p.firstStep = T := by rw [h.it]; ring
  unfold cFires advanced
  rw [hsub, Int.tmod_eq_emod_of_nonneg hT, and_assoc]

/-- after `T` advancing steps: a stage closes at every multiple of `nsteps`, up to the last -/
structure KInv (p : RParams ℝ) (r : RRun ℝ) (T : Int) : Prop where
  stage : r.s.stage = min (T / p.nsteps) p.nstages
  k : r.s.k = kOfLambda p (stageLambda p r.s.stage)

theorem rApply_kStaged (hc : p.chgK = true) (hs : p.nstages ≠ 0) (htc : p.targetCenters = none)
    (r : RRun ℝ) (op : ROp ℝ) :
    (rApply p r op).s.stage = (kStaged p (opClock r.clock op) (opPre p r.s op) (opXs op)).stage ∧
    (rApply p r op).s.k = (kStaged p (opClock r.clock op) (opPre p r.s op) (opXs op)).k := by
  obtain ⟨w, hw⟩ := restraintStep_fst p (opClock r.clock op) (opPre p r.s op) (opXs op)
  rw [rApply_s, hw, preK_none _ _ _ htc, kmu_staged _ _ _ _ hc hs]
  exact ⟨rfl, rfl⟩

theorem kInv_step (hc : p.chgK = true) (hn : 0 < p.nsteps) (hs : 0 < p.nstages)
    (htc : p.targetCenters = none) (r : RRun ℝ) (T : Int) (op : ROp ℝ) (hT : 0 ≤ T)
    (hck : ClockOK p r.clock T) (h : KInv p r T) : KInv p (rApply p r op) (T + (opAdv op : Int)) := by
  obtain ⟨hck', hadv⟩ := clockOK_op hck op
  obtain ⟨hstage, hk⟩ := rApply_kStaged hc hs.ne' htc r op
  have hcl := closes_iff hck' (by positivity)
  rw [hadv] at hcl
  have hst := h.stage
  have hfirst : (opClock r.clock op).it = p.firstStep ↔ T + (opAdv op : Int) = 0 := by rw [hck'.it]; omega
  simp only [kStaged, opPre_stage, opPre_k, hcl, hfirst] at hstage hk
  have hop : opAdv op = 0 ∨ opAdv op = 1 := by cases op <;> simp [opAdv]
  rcases hop with ha | ha
  · -- the step does not advance, so the stage stands; at `T = 0` the force constant is set again, to the same value
    simp only [ha, Nat.cast_zero, add_zero, zero_ne_one, false_and, if_false] at hstage hk ⊢
    refine ⟨hstage.trans hst, ?_⟩
    rw [hk, hstage]
    split_ifs with h0
    · rw [hst, h0, Int.zero_ediv, min_eq_left hs.le]
    · exact h.k
  · -- an advancing step: the condition under which the stage grows is that of `counter_step`
    have hpos : 0 < T + 1 := by omega
    simp only [ha, Nat.cast_one, true_and, hpos, hpos.ne', and_true, if_false] at hstage hk ⊢
    refine ⟨hstage.trans (counter_step hn hst), ?_⟩
    rw [hk, hstage]
    split_ifs
    · rfl
    · exact h.k

theorem kInv_init (hc : p.chgK = true) (hs : 0 < p.nstages) (htc : p.targetCenters = none) (k0 : ℝ) (x0 : List ℝ) :
    KInv p (rApply p (rInit p k0) (.step x0)) 0 := by
  have hck := clockOK_init (p := p) k0 x0
  obtain ⟨hstage, hk⟩ := rApply_kStaged hc hs.ne' htc (rInit p k0) (.step x0)
  have hcl : ¬ closes p (opClock (rInit p k0).clock (.step x0)) := fun h => by
    have := ((closes_iff hck le_rfl).1 h).2.2; omega
  simp only [kStaged, hcl, false_and, if_false, if_pos (hck.it.trans (add_zero _))] at hstage hk
  have hstage0 : (rApply p (rInit p k0) (.step x0)).s.stage = 0 := hstage
  exact ⟨by rw [hstage0, Int.zero_ediv, min_eq_left hs.le], by rw [hk, hstage0]⟩

/-- after `T` advancing steps: the centres move at steps `1, n + 1, 2n + 1, …`, so `(T - 1) / n + 1` moves were made
    (`0` at `T = 0`, by floor division): the counter of `KInv` one step later, plus one -/
structure CInv (p : RParams ℝ) (tgt : List ℝ) (r : RRun ℝ) (T : Int) : Prop where
  stage : r.s.stage = min ((T - 1) / p.nsteps + 1) (p.nstages + 1)
  centers : 1 ≤ r.s.stage → r.s.centers = centersAt p tgt (((r.s.stage - 1 : Int) : ℝ) / (p.nstages : ℝ))

theorem rApply_cStaged (hk : p.kind ≠ .walls) (hck : p.chgK = false) (r : RRun ℝ) (op : ROp ℝ) :
    (rApply p r op).s.stage = (centersMovingUpdate p (opClock r.clock op) (opPre p r.s op)).stage ∧
    (rApply p r op).s.centers = (centersMovingUpdate p (opClock r.clock op) (opPre p r.s op)).centers := by
  obtain ⟨w, hw⟩ := restraintStep_fst p (opClock r.clock op) (opPre p r.s op) (opXs op)
  rw [rApply_s, hw, kmu_off _ _ _ _ hck, preK, if_neg hk]
  exact ⟨rfl, rfl⟩

theorem cInv_step (tgt : List ℝ) (ht : p.targetCenters = some tgt) (hk : p.kind ≠ .walls)
    (hck : p.chgK = false) (hn : 1 < p.nsteps) (hs : 0 < p.nstages)
    (r : RRun ℝ) (T : Int) (op : ROp ℝ) (hT : 0 ≤ T) (hcl : ClockOK p r.clock T) (h : CInv p tgt r T) :
    CInv p tgt (rApply p r op) (T + (opAdv op : Int)) := by
  obtain ⟨hcl', hadv⟩ := clockOK_op hcl op
  obtain ⟨hstage, hcenters⟩ := rApply_cStaged hk hck r op
  obtain ⟨fstage, fcenters⟩ := cmu_staged p (opClock r.clock op) (opPre p r.s op) tgt ht hs.ne'
  have hf := cFires_iff hcl' (by positivity)
  rw [hadv] at hf
  have hst := h.stage
  simp only [opPre_stage, opPre_centers, hf] at fstage fcenters
  rw [fstage] at hstage
  rw [fcenters] at hcenters
  have hop : opAdv op = 0 ∨ opAdv op = 1 := by cases op <;> simp [opAdv]
  rcases hop with ha | ha
  · -- the step does not advance: stage and centres stand
    simp only [ha, Nat.cast_zero, add_zero, zero_ne_one, false_and, and_false, if_false] at hstage hcenters ⊢
    exact ⟨hstage.trans hst, by rw [hstage, hcenters]; exact h.centers⟩
  · -- an advancing step: the condition is that of `counter_step_succ`
    simp only [ha, Nat.cast_one, true_and] at hstage hcenters ⊢
    refine ⟨by rw [hstage, counter_step_succ hn hst, add_sub_cancel_right], ?_⟩
    rw [hstage, hcenters]
    split_ifs
    · intro _; rw [add_sub_cancel_right]
    · exact h.centers

theorem cInv_init (tgt : List ℝ) (ht : p.targetCenters = some tgt) (hk : p.kind ≠ .walls)
    (hck : p.chgK = false) (hn : 1 < p.nsteps) (hs : 0 < p.nstages) (k0 : ℝ) (x0 : List ℝ) :
    CInv p tgt (rApply p (rInit p k0) (.step x0)) 0 := by
  have hcl := clockOK_init (p := p) k0 x0
  obtain ⟨hstage, -⟩ := rApply_cStaged hk hck (rInit p k0) (.step x0)
  have hf : ¬ cFires p (opClock (rInit p k0).clock (.step x0)) := fun h => by
    have := ((cFires_iff hcl le_rfl).1 h).2
    rw [Int.zero_emod] at this; omega
  rw [(cmu_staged p _ _ tgt ht hs.ne').1, if_neg (fun h => hf h.2)] at hstage
  have hstage0 : (rApply p (rInit p k0) (.step x0)).s.stage = 0 := hstage
  refine ⟨?_, fun h => by omega⟩
  rw [hstage0, Int.ediv_eq_neg_one_of_neg_of_le (by omega) (by omega)]
  omega

end Runs

/-! ## sums over lists for the histogram restraint -/

theorem hasDerivAt_sum_map_set (f : ℝ → ℝ) (f' y0 : ℝ) (hf : HasDerivAt f f' y0) (xs : List ℝ) (j : Nat)
    (hj : j < xs.length) :
    HasDerivAt (fun y => ((xs.set j y).map f).sum) f' y0 := by
  simp only [List.set_eq_modify, sum_map_modify f _ xs j hj]
  exact hf.const_add _

theorem zipWith_sub_map_range (H : Nat → ℝ) (ref : List ℝ) (n : Nat) (hr : ref.length = n) :
    List.zipWith (· - ·) ((List.range n).map H) ref = (List.range n).map fun i => H i - ref.getD i 0 := by
  conv_lhs => rw [← map_getD_range_self ref 0 n hr]
  rw [List.zipWith_map, List.zipWith_self]

end Cv.C06
