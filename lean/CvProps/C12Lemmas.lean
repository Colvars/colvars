import CvModel.Sched
/-! Helper lemmas for C12 (core Lean only): `exec` on lists, the effect of a block of actions with distinct write
    slots, and the actions of the parallel loop.  Namespace `Cv.C12L`. -/
open Cv.Sched

namespace Cv.C12L

variable {V : Type}

theorem exec_nil (m : Mem V) : exec m [] = m := rfl

theorem exec_cons (m : Mem V) (a : Act V) (t : List (Act V)) : exec m (a :: t) = exec (a.run m) t := rfl

theorem exec_append (m : Mem V) (s t : List (Act V)) : exec m (s ++ t) = exec (exec m s) t := by
  simp [exec, List.foldl_append]

theorem run_write (a : Act V) (m : Mem V) : a.run m a.write = a.f m := if_pos rfl
theorem run_of_ne (a : Act V) (m : Mem V) {l : Nat} (h : l ≠ a.write) : a.run m l = m l := if_neg h

/-- a block of actions with pairwise distinct write slots, each of which computes the same from every memory that
    agrees with `m` outside the set `W` of slots: every slot gets its action's value on `m`, nothing else changes -/
theorem exec_distinct (W : Nat → Prop) (m : Mem V) (s : List (Act V))
    (hW : ∀ a ∈ s, W a.write)
    (hf : ∀ a ∈ s, ∀ m' : Mem V, (∀ l, ¬ W l → m' l = m l) → a.f m' = a.f m)
    (hpw : s.Pairwise (fun a b => a.write ≠ b.write))
    (m' : Mem V) (hm' : ∀ l, ¬ W l → m' l = m l) :
    (∀ a ∈ s, exec m' s a.write = a.f m) ∧ (∀ l, (∀ a ∈ s, a.write ≠ l) → exec m' s l = m' l) := by
  induction s generalizing m' with
  | nil => exact ⟨fun a ha => (nomatch ha), fun l _ => rfl⟩
  | cons a t ih =>
    have hpw' := List.pairwise_cons.1 hpw
    have hrun : ∀ l, ¬ W l → a.run m' l = m l := fun l hl =>
      (run_of_ne a m' fun (h : l = a.write) => hl (h ▸ hW a List.mem_cons_self)).trans (hm' l hl)
    obtain ⟨ih1, ih2⟩ := ih (fun b hb => hW b (List.mem_cons_of_mem _ hb))
      (fun b hb => hf b (List.mem_cons_of_mem _ hb)) hpw'.2 (a.run m') hrun
    refine ⟨?_, ?_⟩
    · intro b hb
      rw [exec_cons]
      rcases List.mem_cons.1 hb with rfl | hb
      · rw [ih2 _ (fun c hc => Ne.symm (hpw'.1 c hc)), run_write, hf b List.mem_cons_self m' hm']
      · exact ih1 b hb
    · intro l hl
      rw [exec_cons, ih2 l (fun c hc => hl c (List.mem_cons_of_mem _ hc)),
        run_of_ne a m' (Ne.symm (hl a List.mem_cons_self))]

theorem loopActs_pairwise (n : Nat) (g : Nat → Mem V → V) (inputs : List Nat) (base : Nat) :
    (loopActs n g inputs base).Pairwise (fun a b => a.write ≠ b.write) := by
  unfold loopActs
  rw [List.pairwise_map]
  refine List.Pairwise.imp ?_ (List.pairwise_lt_range (n := n))
  intro i j hij
  simp only [ne_eq]
  omega

theorem mem_loopActs {n : Nat} {g : Nat → Mem V → V} {inputs : List Nat} {base : Nat} {a : Act V} :
    a ∈ loopActs n g inputs base ↔ ∃ i, i < n ∧ a = { item := i, reads := inputs, write := base + i, f := g i } := by
  unfold loopActs
  simp only [List.mem_map, List.mem_range]
  constructor
  · rintro ⟨i, hi, rfl⟩; exact ⟨i, hi, rfl⟩
  · rintro ⟨i, hi, rfl⟩; exact ⟨i, hi, rfl⟩

end Cv.C12L
