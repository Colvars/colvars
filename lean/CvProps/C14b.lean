import CvModel.Walkers
import CvProps.C14bLemmas
import Mathlib.Data.List.Basic
import Mathlib.Tactic
/-!
# C14 (second half) — the file protocol of multiple-walker metadynamics

Property theorems about `CvModel/Walkers.lean`: one writer and one reader under an arbitrary schedule of the writer's
steps, flushes and state writes (whose two halves may be separated, or the second may never come) and of the reader's
exchanges and own state writes.

`hills_increasing` and `mirror_sublist` hold under every schedule (invariant `Cv.C14bL.Inv`).  The two theorems saying
that the writer loses nothing carry the hypothesis `paired true evs = true` (`Cv.C14b.paired`, in `C14bLemmas.lean`):
every `restart` comes after a `publish` with no deposit in between.  The event machine also allows a bare `restart`,
which removes hills that are in no state file; see `restart_without_publish_loses_hills`.
-/
open Cv.Walkers Cv.C14bL

namespace Cv.C14b

/-- the writer's hills are stamped with strictly increasing steps, none later than its clock -/
theorem hills_increasing (evs : List Ev) :
    (run evs).w.hills.Pairwise (· < ·) ∧ ∀ h ∈ (run evs).w.hills, h ≤ (run evs).clock :=
  ⟨(Inv.run evs).hillsSorted, (Inv.run evs).hillsLe⟩

/-- **each hill at most once, in order, nothing invented**: under every schedule the reader's mirror is a sublist of
    the hills the writer has deposited, without repetition -/
theorem mirror_sublist (evs : List Ev) :
    (run evs).r.mirror.Sublist (run evs).w.hills ∧ (run evs).r.mirror.Nodup := by
  have I := Inv.run evs
  have hm := I.ahead.sublist (List.sublist_append_left _ _)
  -- an increasing list with members in an increasing list is a sublist of it
  exact ⟨List.sublist_of_subperm_of_pairwise (List.subperm_of_subset hm.nodup I.mirrorMem) hm I.hillsSorted, hm.nodup⟩

/-- the statement of `nothing_lost_by_the_writer` without `hp` is false: a `restart` that is not the second half of a
    state write removes a hill that is in no state file -/
theorem restart_without_publish_loses_hills :
    let p := run [.step true, .restart]
    p.w.hills = [1] ∧ p.w.state = some (0, []) ∧ p.w.file = [] ∧ p.w.pending = [] ∧ paired true [.step true, .restart] = false := by
  decide

/-- everything the writer has deposited is in its published state, in its hills file, or still in its stream -/
theorem nothing_lost_by_the_writer (evs : List Ev)
    -- `hp` cannot be dropped (`restart_without_publish_loses_hills`): every `restart` follows a `publish` with no
    -- deposit in between
    (hp : paired true evs = true) :
    ∃ st hs, (run evs).w.state = some (st, hs) ∧
      hs ++ ((run evs).w.file ++ (run evs).w.pending).filter (fun h => decide (h > st)) = (run evs).w.hills := by
  obtain ⟨_, st, hs, W⟩ := WInv.run evs hp
  exact ⟨st, hs, W.state, W.all⟩

/-- **an exchange that re-reads the state is complete**: when the reader's flag is down (first exchange, a shorter hills
    file noticed, or its own state write), the exchange leaves it with exactly what the writer has made visible -/
theorem sync_after_reread_complete (p : Pair) (h : p.r.inSync = false ∨ p.r.hasData = false)
    -- `hs` cannot be dropped (`sync_without_state_keeps_old_mirror`); reachable pairs have it (`reachable_has_state`)
    (hs : p.w.state.isSome) :
    (p.apply Ev.sync).r.mirror = p.w.visible := by
  obtain ⟨⟨st, l⟩, hw⟩ := Option.isSome_iff_exists.1 hs
  have e := sync_reread p.r p.w st l hw (h.elim (fun h => Or.inr (Or.inr h)) (fun h => Or.inr (Or.inl h)))
  simp only [Pair.apply, e, Writer.visible, hw]

/-- the statement of `sync_after_reread_complete` without `hs` is false: with no state file the reader keeps its old
    mirror and reads the hills file from the start -/
theorem sync_without_state_keeps_old_mirror :
    let p : Pair := { w := { state := none }, r := { mirror := [5] } }
    p.r.inSync = false ∧ (p.apply Ev.sync).r.mirror = [5] ∧ p.w.visible = [] := by
  decide

/-- every reachable pair has a state file (`setup_output` publishes one, none is ever removed) -/
theorem reachable_has_state (evs : List Ev) : (run evs).w.state.isSome := by
  obtain ⟨st, l, hw, _⟩ := (Inv.run evs).state
  simp [hw]

/-- hence, for reachable states: after such an exchange the reader lacks only what the writer has not flushed yet -/
theorem sync_after_reread_lacks_only_pending (evs : List Ev)
    (h : (run evs).r.inSync = false ∨ (run evs).r.hasData = false)
    -- `hp` cannot be dropped: after `[.step true, .restart]` the exchange yields `[]`, the stream is empty, the hills
    -- are `[1]`
    (hp : paired true evs = true) :
    ∃ st, ((run evs).w.state.map (·.1)) = some st ∧
      ((run evs).apply Ev.sync).r.mirror ++ (run evs).w.pending.filter (fun h => decide (h > st)) = (run evs).w.hills := by
  obtain ⟨st, l, hw, heq⟩ := nothing_lost_by_the_writer evs hp
  refine ⟨st, by simp [hw], ?_⟩
  rw [sync_after_reread_complete _ h (by simp [hw])]
  simp only [Writer.visible, hw]
  rw [List.append_assoc, ← List.filter_append, heq]

/-- a reader whose flag is up and whose position is within the current file only appends: nothing is removed by an
    ordinary exchange -/
theorem sync_monotone (p : Pair) (h1 : p.r.inSync = true) (h2 : p.r.hasData = true) (h3 : p.r.pos ≤ p.w.file.length) :
    ∃ extra, (p.apply Ev.sync).r.mirror = p.r.mirror ++ extra := by
  have e := sync_noreread p.r p.w h1 h2 (by omega)
  refine ⟨(p.w.file.drop p.r.pos).filter (fun h => decide (h > p.r.stateStep)), ?_⟩
  simp only [Pair.apply, e]

/-! ## the listed finding, as machine-checked witnesses

The writer restarts its hills file at every state write; a reader notices this only when the new file is shorter than
its read position.  Both schedules below end with an exchange after which the mirror lacks hills that are in the
writer's published state. -/

/-- read position 0: the reader had seen an empty hills file; hill 1 goes into the state, hill 2 into the new file; the
    exchange reads hill 2 and never learns of hill 1 -/
theorem finding_cursor_at_zero :
    let p := run [.sync, .step true, .flush, .publish, .restart, .step true, .flush, .sync]
    p.r.mirror = [2] ∧ p.w.visible = [1, 2] := by
  decide

/-- read position 1 in the old file, one hill in the new file: the position is not beyond the end, the first hill of the
    new file is skipped together with the one that went into the state -/
theorem finding_stale_cursor :
    let p := run [.step true, .flush, .sync, .step true, .flush, .publish, .restart, .step true, .flush, .sync]
    p.r.mirror = [1] ∧ p.w.visible = [1, 2, 3] := by
  decide

/-- the next exchange after the reader's own state write repairs both -/
theorem finding_repaired_by_reread :
    (run [.sync, .step true, .flush, .publish, .restart, .step true, .flush, .sync, .ownWrite, .sync]).r.mirror = [1, 2] ∧
    (run [.step true, .flush, .sync, .step true, .flush, .publish, .restart, .step true, .flush, .sync, .ownWrite, .sync]).r.mirror
      = [1, 2, 3] := by
  decide

/-- a writer killed between the two halves of its state write leaves a state file and a hills file that overlap; the reader
    counts the overlap once -/
theorem killed_between_halves_counted_once :
    let p := run [.step true, .flush, .sync, .step true, .flush, .publish, .ownWrite, .sync]
    p.r.mirror = [1, 2] := by
  decide

end Cv.C14b
