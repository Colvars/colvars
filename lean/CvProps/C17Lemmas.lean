import CvProps.Base
/-!
# Helper lemmas for C17: the pieces of `extIntegrate` under names of their own, one update of a non-periodic variable
piece by piece, `extPrepare` and `extStep` case by case.  Namespace `Cv.C17`.
-/
open Cv

namespace Cv.C17

-- stated again as `C18.dist2S_none` (`ValueLemmas`) and `C19.dist2S_none`; `C18.dist2SGrad_none` has `2` for `2.0`
theorem dist2S_none (a b : ℝ) : dist2S (none : Option ℝ) a b = (a - b) * (a - b) := rfl
theorem dist2SGrad_none (a b : ℝ) : dist2SGrad (none : Option ℝ) a b = 2.0 * (a - b) := rfl

theorem lit025 : (0.25 : ℝ) = 1 / 4 := by norm_num

/-- the slow time step of a variable with time-step factor `n`: every term of the integrator uses it -/
noncomputable def slowDt (p : ExtParams ℝ) : ℝ := p.dt * (p.tsf : ℝ)

/-- the instantaneous bias force: biases hand over `n` times their force, the integrator divides it back -/
noncomputable def instForce (p : ExtParams ℝ) (fb : ℝ) : ℝ := fb / (p.tsf : ℝ)

/-- `C17.shadowOf` before and after one kick and drift of length `h`: `X`, `V` the extended coordinate and velocity
before, `V1`, `X1` after; the last term of each side is the `O(h²)` correction that makes the energy exact. -/
theorem shadow_algebra {X V x fb k m h V1 X1 : ℝ} (hm : m ≠ 0) (hk : k ≠ 0)
    (hV1 : V1 = V + h * (fb - k * (X - x)) / m) (hX1 : X1 = X + h * V1) :
    1 / 2 * m * (V1 + 1 / 2 * h * (fb - k * (X1 - x)) / m) ^ 2 + 1 / 2 * k * (X1 - x) ^ 2 - fb * (X1 - x)
        - h * h * k * k / (8 * m) * (X1 - x - fb / k) ^ 2 =
    1 / 2 * m * (V + 1 / 2 * h * (fb - k * (X - x)) / m) ^ 2 + 1 / 2 * k * (X - x) ^ 2 - fb * (X - x)
        - h * h * k * k / (8 * m) * (X - x - fb / k) ^ 2 := by
  subst hX1
  subst hV1
  field_simp
  ring

/-! ## the pieces of `extIntegrate`, named
Copies of its body (`CvModel/ExtLag.lean`) with the earlier `let`s substituted, generic so that `extIntegrate_reflect` and
`reflectS_eq` tie them to it by `rfl`: keep them in step with the model. -/

section generic
variable {α : Type} [Sc α]

/-- velocity after the two half kicks and the friction/noise step -/
def extV3 (p : ExtParams α) (s : ExtState α) (x fb rnd : α) : α :=
  let n : α := (p.tsf : α)
  let dt := p.dt * n
  let fExt0 := fb / n
  let fSystem := (-0.5 * p.k) * dist2SGrad p.per s.xExt x
  let fExt := fExt0 + fSystem
  let v1 := s.vExt + 0.5 * dt * fExt / p.mass
  let v2 := v1 + 0.5 * dt * fExt / p.mass
  if p.langevin then Prim.exp (-1.0 * dt * p.gamma) * v2 + p.sigma * rnd / p.mass else v2

/-- position after the two half drifts, before reflection and wrapping -/
def extX2 (p : ExtParams α) (s : ExtState α) (x fb rnd : α) : α :=
  let n : α := (p.tsf : α)
  let dt := p.dt * n
  let fExt0 := fb / n
  let fSystem := (-0.5 * p.k) * dist2SGrad p.per s.xExt x
  let fExt := fExt0 + fSystem
  let v1 := s.vExt + 0.5 * dt * fExt / p.mass
  let v2 := v1 + 0.5 * dt * fExt / p.mass
  let x1 := s.xExt + dt * v2 / 2.0
  let v3 := if p.langevin then Prim.exp (-1.0 * dt * p.gamma) * v2 + p.sigma * rnd / p.mass else v2
  x1 + dt * v3 / 2.0

/-- the reflecting-boundary block -/
def reflectS (lo up : Option α) (v0 x2 v3 : α) : α × α × Bool :=
  let dl : Option α := lo.bind fun lb => if x2 - lb < 0.0 then some (x2 - lb) else none
  let du : Option α := up.bind fun ub => if x2 - ub > 0.0 then some (x2 - ub) else none
  let delta : Option α := match dl with | some d => some d | none => du
  match delta with
    | none => (x2, v3, false)
    | some d =>
      let xr := x2 - 2.0 * d
      let vr := -0.5 * (v0 + v3)
      let bad := (match lo with | some lb => decide (xr - lb < 0.0) | none => false) ||
                 (match up with | some ub => decide (xr - ub > 0.0) | none => false)
      (xr, vr, bad)

/-- the overshoot beyond a wall, the lower wall first -/
def crossed (lo up : Option α) (x2 : α) : Option α :=
  match (lo.bind fun lb => if x2 - lb < 0.0 then some (x2 - lb) else none) with
  | some d => some d
  | none => up.bind fun ub => if x2 - ub > 0.0 then some (x2 - ub) else none

/-- the "still outside" test on the mirrored position -/
def outsideS (lo up : Option α) (y : α) : Bool :=
  (match lo with | some lb => decide (y - lb < 0.0) | none => false) ||
  (match up with | some ub => decide (y - ub > 0.0) | none => false)

theorem reflectS_eq (lo up : Option α) (v0 x2 v3 : α) :
    reflectS lo up v0 x2 v3 =
      match crossed lo up x2 with
      | none => (x2, v3, false)
      | some d => (x2 - 2.0 * d, -0.5 * (v0 + v3), outsideS lo up (x2 - 2.0 * d)) := rfl

theorem extIntegrate_reflect (p : ExtParams α) (s : ExtState α) (x fb fa rnd : α) :
    (extIntegrate p s x fb fa rnd).xExt =
      (match p.per with
        | none => (reflectS p.reflLower p.reflUpper s.vExt (extX2 p s x fb rnd) (extV3 p s x fb rnd)).1
        | some P => wrapS P p.wrapC
            (reflectS p.reflLower p.reflUpper s.vExt (extX2 p s x fb rnd) (extV3 p s x fb rnd)).1) ∧
    (extIntegrate p s x fb fa rnd).vExt =
      (reflectS p.reflLower p.reflUpper s.vExt (extX2 p s x fb rnd) (extV3 p s x fb rnd)).2.1 ∧
    (extIntegrate p s x fb fa rnd).err =
      (s.err || (reflectS p.reflLower p.reflUpper s.vExt (extX2 p s x fb rnd) (extV3 p s x fb rnd)).2.2) :=
  ⟨rfl, rfl, rfl⟩

/-- the update reads only the coordinate, the velocity and the error flag of the state -/
theorem extIntegrate_congr (p : ExtParams α) (s t : ExtState α) (x fb fa rnd : α)
    (hx : t.xExt = s.xExt) (hv : t.vExt = s.vExt) :
    extIntegrate p t x fb fa rnd =
      { t with
        prevX := s.xExt, prevV := s.vExt,
        xExt := (extIntegrate p s x fb fa rnd).xExt, vExt := (extIntegrate p s x fb fa rnd).vExt,
        ek := (extIntegrate p s x fb fa rnd).ek, ep := (extIntegrate p s x fb fa rnd).ep,
        fr := (extIntegrate p s x fb fa rnd).fr, ftReported := (extIntegrate p s x fb fa rnd).ftReported,
        fAtoms := (extIntegrate p s x fb fa rnd).fAtoms,
        err := (t.err ||
          (reflectS p.reflLower p.reflUpper s.vExt (extX2 p s x fb rnd) (extV3 p s x fb rnd)).2.2) } := by
  cases s
  cases t
  simp only at hx hv
  subst hx hv
  rfl

omit [Sc α] in
theorem eq_of_err {a b : ExtState α} (h : a = { b with err := a.err }) (he : a.err = b.err) : a = b := by
  rw [h, he]

end generic

/-- `y` respects both walls -/
def Inside (lo up : Option ℝ) (y : ℝ) : Prop := (∀ lb, lo = some lb → lb ≤ y) ∧ (∀ ub, up = some ub → y ≤ ub)

theorem inside_of_outsideS {lo up : Option ℝ} {y : ℝ} (h : outsideS lo up y = false) : Inside lo up y := by
  obtain ⟨h1, h2⟩ := Bool.or_eq_false_iff.1 h
  constructor
  · rintro lb rfl
    have := of_decide_eq_false h1
    rw [lit_zero] at this
    linarith
  · rintro ub rfl
    have := of_decide_eq_false h2
    rw [lit_zero] at this
    linarith

theorem inside_of_crossed_none {lo up : Option ℝ} {x2 : ℝ} (h : crossed lo up x2 = none) : Inside lo up x2 := by
  unfold crossed at h
  constructor
  · rintro lb rfl
    by_contra hc
    rw [Option.bind_some, if_pos (by rw [lit_zero]; linarith)] at h
    exact absurd h (Option.some_ne_none _)
  · rintro ub rfl
    by_contra hc
    split at h
    · exact absurd h (Option.some_ne_none _)
    · rw [Option.bind_some, if_pos (by rw [lit_zero]; linarith)] at h
      exact absurd h (Option.some_ne_none _)

theorem crossed_lower (lb : ℝ) (up : Option ℝ) {x2 : ℝ} (h : x2 < lb) :
    crossed (some lb) up x2 = some (x2 - lb) := by
  unfold crossed
  rw [Option.bind_some, if_pos (by rw [lit_zero]; linarith)]

theorem reflectS_inside (lo up : Option ℝ) (v0 x2 v3 : ℝ) (h : (reflectS lo up v0 x2 v3).2.2 = false) :
    Inside lo up (reflectS lo up v0 x2 v3).1 := by
  -- either no wall was crossed, or the mirrored position passed the test
  rw [reflectS_eq] at h ⊢
  cases hc : crossed lo up x2 <;> simp only [hc] at h ⊢
  · exact inside_of_crossed_none hc
  · exact inside_of_outsideS h

/-- the lower wall is looked at first, whatever the upper one -/
theorem reflectS_lower (lb : ℝ) (up : Option ℝ) (v0 x2 v3 : ℝ) (h : x2 < lb) :
    (reflectS (some lb) up v0 x2 v3).1 = 2 * lb - x2 ∧
    (reflectS (some lb) up v0 x2 v3).2.1 = -0.5 * (v0 + v3) := by
  rw [reflectS_eq, crossed_lower lb up h]
  refine ⟨?_, rfl⟩
  show x2 - 2.0 * (x2 - lb) = _
  rw [lit_two]
  ring

/-! ## one update of a non-periodic variable, piece by piece
Slow step `h = dt·n` in every term, bias force scaled back to `fb / n`. -/

theorem extV3_nonper (p : ExtParams ℝ) (s : ExtState ℝ) (x fb rnd : ℝ) (hper : p.per = none) :
    extV3 p s x fb rnd =
      if p.langevin then
        Real.exp (-(slowDt p * p.gamma)) * (s.vExt + slowDt p * (instForce p fb - p.k * (s.xExt - x)) / p.mass) +
          p.sigma * rnd / p.mass
      else s.vExt + slowDt p * (instForce p fb - p.k * (s.xExt - x)) / p.mass := by
  unfold extV3 slowDt instForce
  simp only [hper, dist2SGrad_none, prim_exp, lit, neg_mul, one_mul]
  cases p.langevin <;> simp only [Bool.false_eq_true, if_true, if_false] <;> ring

theorem extX2_nonper (p : ExtParams ℝ) (s : ExtState ℝ) (x fb rnd : ℝ) (hper : p.per = none) :
    extX2 p s x fb rnd =
      s.xExt + slowDt p / 2 * (s.vExt + slowDt p * (instForce p fb - p.k * (s.xExt - x)) / p.mass) +
        slowDt p / 2 * extV3 p s x fb rnd := by
  unfold extX2 extV3 slowDt instForce
  simp only [hper, dist2SGrad_none, lit]
  ring

theorem extV3_X2_frictionless (p : ExtParams ℝ) (s : ExtState ℝ) (x fb rnd : ℝ) (hper : p.per = none)
    (hl : p.langevin = false) :
    extV3 p s x fb rnd = s.vExt + slowDt p * (instForce p fb - p.k * (s.xExt - x)) / p.mass ∧
    extX2 p s x fb rnd = s.xExt + slowDt p * extV3 p s x fb rnd := by
  rw [extX2_nonper p s x fb rnd hper, extV3_nonper p s x fb rnd hper, hl]
  simp only [Bool.false_eq_true, if_false]
  exact ⟨trivial, by ring⟩

theorem extIntegrate_free (p : ExtParams ℝ) (s : ExtState ℝ) (x fb fa rnd : ℝ) (hper : p.per = none)
    (hlo : p.reflLower = none) (hup : p.reflUpper = none) :
    (extIntegrate p s x fb fa rnd).vExt = extV3 p s x fb rnd ∧
    (extIntegrate p s x fb fa rnd).xExt = extX2 p s x fb rnd := by
  obtain ⟨hx, hv, _⟩ := extIntegrate_reflect p s x fb fa rnd
  rw [hx, hv, hlo, hup, hper]
  exact ⟨rfl, rfl⟩

theorem extIntegrate_forces (p : ExtParams ℝ) (s : ExtState ℝ) (x fb fa rnd : ℝ) (hper : p.per = none) :
    (extIntegrate p s x fb fa rnd).fAtoms = p.k * (s.xExt - x) * (p.tsf : ℝ) + fa ∧
    (extIntegrate p s x fb fa rnd).fr = fb / (p.tsf : ℝ) ∧
    (extIntegrate p s x fb fa rnd).ftReported =
      if p.subtract then - p.k * (s.xExt - x) else fb / (p.tsf : ℝ) - p.k * (s.xExt - x) := by
  unfold extIntegrate
  simp only [hper, dist2SGrad_none, lit]
  refine ⟨by ring, trivial, ?_⟩
  congr 1 <;> ring

theorem extIntegrate_energies (p : ExtParams ℝ) (s : ExtState ℝ) (x fb fa rnd : ℝ) (hper : p.per = none) :
    (extIntegrate p s x fb fa rnd).prevX = s.xExt ∧
    (extIntegrate p s x fb fa rnd).ek =
      1 / 2 * p.mass * (s.vExt + 1 / 2 * slowDt p * (instForce p fb - p.k * (s.xExt - x)) / p.mass) ^ 2 ∧
    (extIntegrate p s x fb fa rnd).ep = 1 / 2 * p.k * (s.xExt - x) ^ 2 := by
  unfold extIntegrate slowDt instForce
  simp only [hper, dist2S_none, dist2SGrad_none, lit]
  refine ⟨trivial, ?_, ?_⟩ <;> ring

/-- when the initialisation test of `calc_colvar_properties` (colvar.cpp 1768) fails, what is left are the test for a
    repeated step (1785) and, inside it, the test for a jump of the variable -/
theorem extPrepare_keep (p : ExtParams ℝ) (c : Clock) (s : ExtState ℝ) (x : ℝ)
    (hset : s.set = true) (hnz : c.stepRelative ≠ 0 ∨ s.afterRestart = true) :
    extPrepare p c true s x =
      { (if c.stepRelative = s.prevTimestep then
          if dist2S p.per x s.xOld / (p.width * p.width) > 0.25 then { s with xExt := x }
          else { s with xExt := s.prevX, vExt := s.prevV }
        else s) with afterRestart := false } := by
  have h1 : ((decide (c.stepRelative = 0) && !s.afterRestart) || !s.set || !true) = false := by
    rcases hnz with h | h <;> simp [h, hset]
  unfold extPrepare
  simp only [h1, Bool.false_eq_true, if_false, Bool.true_and, decide_eq_true_eq]

theorem extPrepare_ordinary (p : ExtParams ℝ) (c : Clock) (s : ExtState ℝ) (x : ℝ)
    (hset : s.set = true) (hnz : c.stepRelative ≠ 0 ∨ s.afterRestart = true)
    (hnrep : c.stepRelative ≠ s.prevTimestep) :
    extPrepare p c true s x = { s with afterRestart := false } := by
  rw [extPrepare_keep p c s x hset hnz, if_neg hnrep]

theorem extPrepare_repeat (p : ExtParams ℝ) (c : Clock) (s : ExtState ℝ) (x : ℝ)
    (hset : s.set = true) (hnz : c.stepRelative ≠ 0 ∨ s.afterRestart = true)
    (hrep : c.stepRelative = s.prevTimestep)
    (hjump : ¬ dist2S p.per x s.xOld / (p.width * p.width) > 0.25) :
    extPrepare p c true s x = { s with xExt := s.prevX, vExt := s.prevV, afterRestart := false } := by
  rw [extPrepare_keep p c s x hset hnz, if_pos hrep, if_neg hjump]

theorem extPrepare_init (p : ExtParams ℝ) (c : Clock) (s : ExtState ℝ) (x : ℝ) (h0 : c.stepRelative = 0)
    (hr : s.afterRestart = false) (hnrep : s.prevTimestep ≠ 0) (hlo : p.reflLower = none)
    (hup : p.reflUpper = none) :
    extPrepare p c true s x = { s with set := true, xExt := x, vExt := 0, afterRestart := false } := by
  unfold extPrepare
  have h1 : ((decide (c.stepRelative = 0) && !s.afterRestart) || !s.set || !true) = true := by
    simp [h0, hr]
  have h2 : (0 : Int) ≠ s.prevTimestep := fun h => hnrep h.symm
  simp only [h1, if_true]
  simp only [hlo, hup, Bool.true_and, decide_eq_true_eq, h0, h2, if_false, lit_zero]

theorem extStep_ordinary (p : ExtParams ℝ) (c : Clock) (s : ExtState ℝ) (x : ℝ) (fbOf : ℝ → ℝ) (fa rnd : ℝ)
    (hset : s.set = true) (hnz : c.stepRelative ≠ 0 ∨ s.afterRestart = true)
    (hnrep : c.stepRelative ≠ s.prevTimestep) :
    extStep p c s x fbOf fa rnd =
      extEnd c (extIntegrate p { s with afterRestart := false } x (fbOf s.xExt) fa rnd) x := by
  unfold extStep
  rw [extPrepare_ordinary p c s x hset hnz hnrep]

theorem extStep_repeat (p : ExtParams ℝ) (c : Clock) (s : ExtState ℝ) (x : ℝ) (fbOf : ℝ → ℝ) (fa rnd : ℝ)
    (hset : s.set = true) (hnz : c.stepRelative ≠ 0 ∨ s.afterRestart = true)
    (hrep : c.stepRelative = s.prevTimestep)
    (hjump : ¬ dist2S p.per x s.xOld / (p.width * p.width) > 0.25) :
    extStep p c s x fbOf fa rnd =
      extEnd c (extIntegrate p { s with xExt := s.prevX, vExt := s.prevV, afterRestart := false } x
        (fbOf s.prevX) fa rnd) x := by
  unfold extStep
  rw [extPrepare_repeat p c s x hset hnz hrep hjump]

/-- the repeated step, computed again from the restored `xExt`, `vExt`, ends in the same state (the error flag is only ever raised) -/
theorem extIntegrate_again (p : ExtParams ℝ) (c : Clock) (s t : ExtState ℝ) (x fb fa rnd : ℝ)
    (ht : t = { extEnd c (extIntegrate p s x fb fa rnd) x with xExt := s.xExt, vExt := s.vExt }) :
    extEnd c (extIntegrate p t x fb fa rnd) x = extEnd c (extIntegrate p s x fb fa rnd) x := by
  rw [extIntegrate_congr p s t x fb fa rnd (by rw [ht]) (by rw [ht])]
  subst ht
  refine eq_of_err rfl ?_
  show ((extIntegrate p s x fb fa rnd).err || _) = (extIntegrate p s x fb fa rnd).err
  rw [(extIntegrate_reflect p s x fb fa rnd).2.2, Bool.or_assoc, Bool.or_self]

end Cv.C17
