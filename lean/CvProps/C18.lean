import CvProps.ValueLemmas
/-!
# C18 — distances, gradients and wrapping of variable values form a consistent metric

All statements are about the model `CvModel/Value.lean` at `ℝ`.
Vectors are lists; a 3-vector has length 3, a quaternion length 4.
-/
open Cv

namespace Cv.C18

/-! ## scalar and periodic scalar -/

theorem nonneg_scalar (per : Option ℝ) (x1 x2 : ℝ) : 0 ≤ dist2S per x1 x2 := by
  unfold dist2S; rw [sq_real]; exact mul_self_nonneg _

/-- symmetric, including the tie at exactly half a period -/
theorem symm_scalar (per : Option ℝ) (hp : ∀ p, per = some p → 0 < p) (x1 x2 : ℝ) :
    dist2S per x1 x2 = dist2S per x2 x1 := by
  cases per with
  | none => rw [dist2S_none, dist2S_none]; ring
  | some p => rw [dist2S_some, dist2S_some, ← neg_sub x2 x1, pshift_neg_sq p (x2 - x1) (hp p rfl)]

theorem zero_iff_scalar (x1 x2 : ℝ) : dist2S none x1 x2 = 0 ↔ x1 = x2 := by
  rw [dist2S_none, mul_self_eq_zero, sub_eq_zero]

/-- zero exactly for values that differ by a whole number of periods -/
theorem zero_iff_periodic (p : ℝ) (hp : 0 < p) (x1 x2 : ℝ) :
    dist2S (some p) x1 x2 = 0 ↔ ∃ n : ℤ, x1 - x2 = n * p := by
  rw [dist2S_some, mul_self_eq_zero]
  exact pshift_zero_iff p (x1 - x2) hp

theorem period_invariant (p : ℝ) (hp : 0 < p) (x1 x2 : ℝ) (n m : ℤ) :
    dist2S (some p) (x1 + n * p) (x2 + m * p) = dist2S (some p) x1 x2 := by
  have e : x1 + n * p - (x2 + m * p) = (x1 - x2) + ((n - m : ℤ) : ℝ) * p := by
    push_cast; ring
  rw [dist2S_some, dist2S_some, e, pshift_add_int p _ hp]

/-- the squared periodic distance never exceeds (p/2)² -/
theorem periodic_le_half (p : ℝ) (hp : 0 < p) (x1 x2 : ℝ) :
    dist2S (some p) x1 x2 ≤ (p / 2) * (p / 2) := by
  obtain ⟨h1, h2⟩ := pshift_range p (x1 - x2) hp
  rw [dist2S_some]
  exact mul_self_le_mul_self_of_le_of_neg_le h2.le (neg_le.1 h1)

theorem grad_scalar (x1 x2 : ℝ) :
    HasDerivAt (fun x => dist2S none x x2) (dist2SGrad none x1 x2) x1 :=
  hasDerivAt_dist2S none x1 x2 (fun _ h => nomatch h)

/-- away from the cut locus (difference of exactly half a period modulo the period) -/
theorem grad_periodic (p : ℝ) (hp : 0 < p) (x1 x2 : ℝ)
    (hcut : ∀ n : ℤ, (x1 - x2) / p + 0.5 ≠ n) :
    HasDerivAt (fun x => dist2S (some p) x x2) (dist2SGrad (some p) x1 x2) x1 :=
  have _ := hp  -- not needed
  hasDerivAt_dist2S (some p) x1 x2 (fun _ h => Option.some.inj h ▸ hcut)

-- the hypotheses of `grad_periodic` can be met
example : (0:ℝ) < 360 ∧ ∀ n : ℤ, ((10:ℝ) - 350) / 360 + 0.5 ≠ n := by
  refine ⟨by norm_num, fun n hn => ?_⟩
  have e : ((10:ℝ) - 350) / 360 + 0.5 = -4 / 9 := by norm_num
  have h9 : n * 9 = -4 := by exact_mod_cast (by rw [← hn, e]; norm_num : (n : ℝ) * 9 = -4)
  omega

theorem wrap_range (p c x : ℝ) (hp : 0 < p) :
    c - p / 2 ≤ wrapS p c x ∧ wrapS p c x < c + p / 2 := by
  obtain ⟨h1, h2⟩ := pshift_range p (x - c) hp
  rw [wrapS_eq, sub_eq_add_neg]
  exact ⟨add_le_add_right h1 c, add_lt_add_right h2 c⟩

theorem wrap_equiv (p c x : ℝ) : ∃ n : ℤ, wrapS p c x = x - n * p := by
  exact ⟨⌊(x - c) / p + 0.5⌋, rfl⟩

theorem wrap_idem (p c x : ℝ) (hp : 0 < p) : wrapS p c (wrapS p c x) = wrapS p c x := by
  obtain ⟨h1, h2⟩ := pshift_range p (x - c) hp
  rw [wrapS_eq p c (wrapS p c x), wrapS_eq, add_sub_cancel_left, pshift_of_mem _ _ hp h1 h2]

/-- wrapping does not change any periodic distance -/
theorem wrap_dist (p c x y : ℝ) (hp : 0 < p) :
    dist2S (some p) (wrapS p c x) y = dist2S (some p) x y := by
  have e : wrapS p c x = x + ((-⌊(x - c) / p + 0.5⌋ : ℤ) : ℝ) * p := by
    unfold wrapS; rw [floorS_real]; push_cast; ring
  have := period_invariant p hp x y (-⌊(x - c) / p + 0.5⌋) 0
  rw [e]
  simpa using this

/-! ## 3-vectors and generic vectors -/

theorem nonneg_vec (a b : List ℝ) : 0 ≤ dist2V a b := by
  exact norm2_nonneg _

theorem symm_vec (a b : List ℝ) : dist2V a b = dist2V b a := by
  induction a generalizing b with
  | nil => simp [dist2V]
  | cons x a ih =>
    cases b with
    | nil => simp [dist2V]
    | cons y b =>
      have := ih b
      simp only [dist2V, vsub_cons, norm2_cons] at this ⊢
      rw [this]; ring

theorem zero_iff_vec (a b : List ℝ) (h : a.length = b.length) : dist2V a b = 0 ↔ a = b := by
  exact dist2V_eq_zero a b h

/-- derivative along any direction `v` equals the reported gradient dotted with `v` -/
theorem grad_vec (a b v : List ℝ) (h : a.length = b.length) (hv : v.length = a.length) :
    HasDerivAt (fun t : ℝ => dist2V (vadd a (vscale t v)) b) (dot (dist2VGrad a b) v) 0 := by
  induction a generalizing b v with
  | nil => simpa [dist2V, dist2VGrad] using hasDerivAt_const (0:ℝ) (0:ℝ)
  | cons x a ih =>
    match b, v, h, hv with
    | y :: b, w :: v, h, hv =>
      have ih' := ih b v (by simpa using h) (by simpa using hv)
      simp only [dist2V, dist2VGrad, vscale_cons, vadd_cons, vsub_cons, norm2_cons, dot_cons]
        at ih' ⊢
      have hd : HasDerivAt (fun t : ℝ => x + t * w - y) w 0 := by
        simpa using (((hasDerivAt_id (0:ℝ)).mul_const w).const_add x).sub_const y
      exact ((hd.mul hd).congr_deriv (by rw [lit_two]; ring)).add ih'

/-! ## unit vectors -/

theorem nonneg_unit (a b : List ℝ) : 0 ≤ dist2U a b := by
  unfold dist2U; rw [sq_real]; exact mul_self_nonneg _

theorem symm_unit (a b : List ℝ) : dist2U a b = dist2U b a := by
  unfold dist2U; rw [dot_comm]

theorem zero_iff_unit (a b : List ℝ) (ha : a.length = 3) (hb : b.length = 3)
    (na : norm2 a = 1) (nb : norm2 b = 1) : dist2U a b = 0 ↔ a = b := by
  rw [dist2U_eq, mul_self_eq_zero, Real.arccos_eq_zero]
  exact one_le_dot_iff a b (by rw [ha, hb]) na nb

/-- away from coincident / antipodal pairs the reported gradient is the derivative along any direction -/
theorem grad_unit (a b v : List ℝ) (ha : a.length = 3) (hb : b.length = 3) (hv : v.length = 3)
    (hc : -1 < dot a b ∧ dot a b < 1) :
    HasDerivAt (fun t : ℝ => dist2U (vadd a (vscale t v)) b) (dot (dist2UGrad a b) v) 0 := by
  have _ := hb  -- not needed
  have hlt : dot a b * dot a b < 1 := by
    rw [← _root_.sq]; exact (sq_lt_one_iff_abs_lt_one _).2 (abs_lt.2 hc)
  -- the guard `1 - c² ≤ 0` is false, and `Real.arccos` absorbs the clamp (`dist2U_eq`)
  rw [dist2UGrad_of_lt a b hlt, dot_vscale_left, dot_comm b v]
  simp only [dist2U_eq, dot_vadd_vscale a v b (hv.trans ha.symm)]
  exact hasDerivAt_arccos_sq_line _ _ hc.1 hc.2

-- the hypotheses of `grad_unit` can be met
example : norm2 ([1, 0, 0] : List ℝ) = 1 ∧ norm2 ([0, 1, 0] : List ℝ) = 1 ∧
    (-1 < dot ([1, 0, 0] : List ℝ) [0, 1, 0] ∧ dot ([1, 0, 0] : List ℝ) [0, 1, 0] < 1) := by
  norm_num [norm2, dot, sumL_eq_sum]

/-- at coincident unit vectors the reported gradient is the null vector, which is the derivative of the squared
    distance along every tangent direction (the quotient `acos c / sqrt (1 - c²)` is `0/0` there: the code tests
    `1 - c² ≤ 0` first, Colvars fix 8b57edd4) -/
theorem grad_unit_same (a v : List ℝ) (ha : a.length = 3) (hv : v.length = 3) (na : norm2 a = 1)
    (hperp : dot v a = 0) :
    dist2UGrad a a = [0.0, 0.0, 0.0] ∧
    HasDerivAt (fun t : ℝ => dist2U (vadd a (vscale t v)) a) (dot (dist2UGrad a a) v) 0 := by
  have haa : dot a a = 1 := na
  have hg : dist2UGrad a a = [0.0, 0.0, 0.0] :=
    dist2UGrad_of_guard a a (by rw [haa]; norm_num)
  refine ⟨hg, ?_⟩
  have hfun : (fun t : ℝ => dist2U (vadd a (vscale t v)) a) = fun _ => (0 : ℝ) := by
    funext t
    rw [dist2U_eq, dot_vadd_vscale a v a (by rw [hv, ha]) t, hperp, haa, mul_zero, add_zero,
      Real.arccos_one, mul_zero]
  have hz : dot (dist2UGrad a a) v = 0 := by
    rw [hg]
    match v, hv with
    | [x, y, z], _ => simp; norm_num
  rw [hfun, hz]
  exact hasDerivAt_const (0:ℝ) (0:ℝ)

/-- the clamp makes the distance between a unit vector and itself zero whatever the rounding of the product -/
theorem unit_self_zero (a : List ℝ) (h : 1 ≤ dot a a) : dist2U a a = 0 := by
  rw [dist2U_eq, Real.arccos_eq_zero.2 h, mul_zero]

/-! ## quaternions (the constant `PI` instantiated with `Real.pi`) -/

theorem nonneg_quat (a b : List ℝ) : 0 ≤ dist2Q Real.pi a b := by
  rw [dist2Q_eq]; exact mul_self_nonneg _

theorem symm_quat (a b : List ℝ) : dist2Q Real.pi a b = dist2Q Real.pi b a := by
  rw [dist2Q_eq, dist2Q_eq, dot_comm]

/-- flipping the sign of either quaternion does not change the distance -/
theorem qsign_invariant (a b : List ℝ) (nb : a.length = b.length) :
    dist2Q Real.pi a (vneg b) = dist2Q Real.pi a b ∧ dist2Q Real.pi (vneg a) b = dist2Q Real.pi a b := by
  have _ := nb  -- not needed
  rw [dist2Q_eq, dist2Q_eq, dist2Q_eq, dot_vneg_right, dot_vneg_left, abs_neg]
  exact ⟨rfl, rfl⟩

theorem zero_iff_quat (a b : List ℝ) (ha : a.length = 4) (hb : b.length = 4)
    (na : norm2 a = 1) (nb : norm2 b = 1) : dist2Q Real.pi a b = 0 ↔ (a = b ∨ a = vneg b) := by
  have hl : a.length = b.length := by rw [ha, hb]
  rw [dist2Q_eq, mul_self_eq_zero, Real.arccos_eq_zero, le_abs, one_le_dot_iff a b hl na nb,
    le_neg, dot_le_neg_one_iff a b hl na nb]

/-- the geodesic distance between rotations never exceeds π/2 -/
theorem quat_le_half_pi (a b : List ℝ) : dist2Q Real.pi a b ≤ (Real.pi / 2) * (Real.pi / 2) := by
  rw [dist2Q_eq]
  exact mul_self_le_mul_self (Real.arccos_nonneg _) (Real.arccos_le_pi_div_two.2 (abs_nonneg _))

/-! ## interpolation -/

theorem interp_ends_scalar (x1 x2 : ℝ) : lerpS x1 x2 0.0 = x1 ∧ lerpS x1 x2 1.0 = x2 := by
  unfold lerpS
  constructor <;> norm_num

theorem interp_ends_vec (a b : List ℝ) (h : a.length = b.length) :
    lerpV a b 0.0 = a ∧ lerpV a b 1.0 = b := by
  exact ⟨lerpV_zero a b h, lerpV_one a b h⟩

/-- whenever the code does not raise its own "undefined" error the result has unit norm -/
theorem interp_manifold (d2 : ℝ) (a b v : List ℝ) (l : ℝ) (hd : 0 < d2)
    (h : interpManifold d2 a b l = some v) : norm2 v = 1 := by
  unfold interpManifold at h
  simp only [prim_sqrt] at h
  have hs : 0 < √d2 := Real.sqrt_pos.2 hd
  rw [if_neg (by rw [lit_zero]; exact not_le.2 hs)] at h
  by_cases hlt : √(norm2 (lerpV a b l)) / √d2 < 1.0e-6
  · rw [if_pos hlt] at h; exact absurd h (by simp)
  · rw [if_neg hlt] at h
    have hv : v = normalize (lerpV a b l) := (Option.some.inj h).symm
    rw [hv]
    apply norm2_normalize
    have hq : (0:ℝ) < √(norm2 (lerpV a b l)) / √d2 :=
      lt_of_lt_of_le (by norm_num) (not_lt.1 hlt)
    have : 0 < √(norm2 (lerpV a b l)) := by
      rcases (div_pos_iff.1 hq) with ⟨h1, _⟩ | ⟨_, h2⟩
      · exact h1
      · linarith
    exact Real.sqrt_pos.1 this

theorem interp_manifold_ends (a b : List ℝ) (h : a.length = b.length)
    (na : norm2 a = 1) (nb : norm2 b = 1) :
    normalize (lerpV a b 0.0) = a ∧ normalize (lerpV a b 1.0) = b := by
  rw [lerpV_zero a b h, lerpV_one a b h]
  exact ⟨normalize_of_unit a na, normalize_of_unit b nb⟩

/-! ## interpolation between quaternions: `q` and `-q` are the same rotation -/

/-- interpolating between two quaternions that describe the same rotation stays at that rotation for every `λ`
    (the second value is first replaced by its representative closest to the first, `matchSign`; mixed as given, the
    midpoint of `q` and `-q` would be the null vector; Colvars fix 2acf02ca) -/
theorem interp_quat_same_rotation (a : List ℝ) (l : ℝ) (ha : a.length = 4) (na : norm2 a = 1) :
    interpQ Real.pi a (vneg a) l = some a ∧ interpQ Real.pi a a l = some a := by
  have hself : dist2Q Real.pi a a = 0 := (zero_iff_quat a a ha ha na na).2 (Or.inl rfl)
  have hneg : dist2Q Real.pi a (vneg a) = 0 := by rw [(qsign_invariant a a rfl).1, hself]
  have hm1 : matchSign a (vneg a) = a := by
    have hdot : dot a (vneg a) = -1 := by
      rw [dot_vneg_right]; unfold norm2 at na; rw [na]
    rw [matchSign_eq, if_pos (by rw [hdot]; norm_num), vneg_vneg]
  have hm2 : matchSign a a = a := by
    rw [matchSign_eq]
    have hdot : dot a a = 1 := na
    rw [if_neg (by rw [hdot]; norm_num)]
  unfold interpQ
  rw [hneg, hself, hm1, hm2, interpManifold_zero, lerpV_self, normalize_of_unit a na]
  exact ⟨rfl, rfl⟩

/-- whatever comes out of the quaternion interpolation is a unit quaternion -/
theorem interp_quat_on_manifold (a b v : List ℝ) (l : ℝ) (hab : a.length = b.length)
    (hd : 0 < dist2Q Real.pi a b) (h : interpQ Real.pi a b l = some v) : norm2 v = 1 := by
  have _ := hab  -- not needed
  unfold interpQ at h
  exact interp_manifold _ _ _ _ _ hd h

/-- the end points: `λ = 0` gives the first value, `λ = 1` the second one up to the sign that does not change the
    rotation -/
theorem interp_quat_ends (a b : List ℝ) (hab : a.length = b.length) (na : norm2 a = 1) (nb : norm2 b = 1)
    (hd : 0 < dist2Q Real.pi a b) :
    interpQ Real.pi a b 0.0 = some a ∧ (interpQ Real.pi a b 1.0 = some b ∨ interpQ Real.pi a b 1.0 = some (vneg b)) := by
  have hl : a.length = (matchSign a b).length := by rw [matchSign_length, hab]
  have nm : norm2 (matchSign a b) = 1 := by rw [matchSign_norm2, nb]
  have hle := quat_le_half_pi a b
  have h0 : lerpV a (matchSign a b) 0.0 = a := lerpV_zero _ _ hl
  have h1 : lerpV a (matchSign a b) 1.0 = matchSign a b := lerpV_one _ _ hl
  unfold interpQ
  rw [interpManifold_unit _ _ _ _ hd hle (by rw [h0, na]),
    interpManifold_unit _ _ _ _ hd hle (by rw [h1, nm]), h0, h1,
    normalize_of_unit a na, normalize_of_unit _ nm]
  refine ⟨rfl, ?_⟩
  rw [matchSign_eq]
  split_ifs
  · exact Or.inr rfl
  · exact Or.inl rfl

end Cv.C18
