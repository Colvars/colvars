import CvProps.C07Lemmas
/-!
# C07 — total-force measurement is the inverse of force application

Property theorems about `CvModel/Geom.lean` (component level) and `CvModel/Module.lean` (`cvUpdate`: timing and
subtraction of the applied force) at `α := ℝ`.  Force application gives atom `i` the force `f · ∇ᵢq`; measuring the
total force projects the atomic forces on the inverse gradients.
-/
open Cv Cv.Geom

namespace Cv.C07

def MassOk (g : AGroup ℝ) : Prop := g ≠ [] ∧ ∀ a ∈ g, 0 < a.m

private theorem MassOk.ne {g : AGroup ℝ} (h : MassOk g) : totalMass g ≠ 0 := (totalMass_pos g h.1 h.2).ne'

/-- the atomic forces that result from applying the force `f` on a component through its gradients -/
noncomputable def applied (f : ℝ) (grads : List (V3 ℝ)) : List (V3 ℝ) := grads.map (V3.smul f)
noncomputable def addF (a b : List (V3 ℝ)) : List (V3 ℝ) := List.zipWith V3.add a b

private theorem groupForce_applied (f : ℝ) (g : AGroup ℝ) (hg : MassOk g) (G : V3 ℝ) :
    groupForce (applied f (weighted g G)) = V3.smul f G := by
  rw [applied, groupForce_map_smul, groupForce_weighted g hg.ne]

/-! ## measurement inverts application

Every measurement is a linear functional of the group forces, and `groupForce` is additive and homogeneous in the atomic
forces.  On the forces that applying `f` produces, `groupForce_weighted` returns `f` times the centre's gradient, and the
projection gives `f` back because `unit · unit = 1` (distanceXY: `norm · norm = o · o`); the two branches of
`oneSiteTotalForce` are then identities between scalars. -/

theorem distance_inverse (g1 g2 : AGroup ℝ) (h1 : MassOk g1) (h2 : MassOk g2) (hne : distance g1 g2 ≠ 0) (f : ℝ)
    (oneSite : Bool) :
    distanceTF g1 g2 (applied f (distanceGrad g1 g2).1) (applied f (distanceGrad g1 g2).2) oneSite = f := by
  have hu := V3.dot_unit_unit (a := distVec g1 g2) hne
  rw [distanceTF, distanceGrad, groupForce_applied f g1 h1, groupForce_applied f g2 h2, V3.dot_sub_left,
    V3.dot_smul_left, V3.dot_smul_left, V3.dot_smul_left, hu, lit_one, lit_half]
  cases oneSite
  · rw [if_neg Bool.false_ne_true]; ring
  · rw [if_pos rfl]; ring

theorem distanceZ_inverse (main ref : AGroup ℝ) (axis : V3 ℝ) (hm : MassOk main) (hr : MassOk ref)
    (hax : V3.norm axis ≠ 0) (f : ℝ) (oneSite : Bool) :
    distanceZTF main ref axis (applied f (distanceZGrad main ref axis).1) (applied f (distanceZGrad main ref axis).2) oneSite = f := by
  have hu := V3.dot_unit_unit hax
  rw [distanceZTF, distanceZGrad, groupForce_applied f main hm, groupForce_applied f ref hr, V3.dot_sub_left,
    V3.dot_smul_left, V3.dot_smul_left, V3.dot_smul_left, hu, lit_one, lit_half]
  cases oneSite
  · rw [if_neg Bool.false_ne_true]; ring
  · rw [if_pos rfl]; ring

theorem distanceXY_inverse (main ref : AGroup ℝ) (axis : V3 ℝ) (hm : MassOk main) (hr : MassOk ref)
    (hne : distanceXY main ref axis ≠ 0) (f : ℝ) (oneSite : Bool) :
    distanceXYTF main ref axis (applied f (distanceXYGrad main ref axis).1) (applied f (distanceXYGrad main ref axis).2) oneSite = f := by
  have hx : V3.norm (orthoPart main ref axis) ≠ 0 := hne
  have hsq := V3.norm_mul_self (orthoPart main ref axis)
  rw [distanceXYTF, distanceXYGrad, groupForce_applied f main hm, groupForce_applied f ref hr, V3.dot_sub_left,
    V3.dot_smul_left, V3.dot_smul_left, V3.dot_smul_left, V3.dot_smul_left, ← hsq, lit_one, lit_half]
  cases oneSite
  · rw [if_neg Bool.false_ne_true]; field_simp; ring
  · rw [if_pos rfl]; field_simp

theorem gyration_inverse (g : AGroup ℝ) (hg : g ≠ []) (hne : gyration g ≠ 0) (f : ℝ) :
    gyrationTF g (applied f (gyrationGrad g)) = f := by
  have hN := length_cast_ne_zero g hg
  have hG := gyration_mul_self g
  rw [gyrationTF, gyrationGrad, applied, foldl_add_eq_sum, lit_zero, zero_add, sum_zip_self, ← inertia_eq, lit_one]
  field_simp at hG ⊢
  linear_combination (-f) * hG

/-! ## the measurement is linear in the atomic forces -/

theorem distance_linear (g1 g2 : AGroup ℝ) (a1 b1 a2 b2 : List (V3 ℝ)) (k : ℝ) (oneSite : Bool)
    (hl1 : a1.length = b1.length) (hl2 : a2.length = b2.length) :
    distanceTF g1 g2 (addF a1 (applied k b1)) (addF a2 (applied k b2)) oneSite =
      distanceTF g1 g2 a1 a2 oneSite + k * distanceTF g1 g2 b1 b2 oneSite := by
  simp only [distanceTF, addF, applied, groupForce_zipWith_add _ _ (hl1.trans (List.length_map _).symm),
    groupForce_zipWith_add _ _ (hl2.trans (List.length_map _).symm), groupForce_map_smul, V3.dot_add_left,
    V3.dot_sub_left, V3.dot_smul_left, lit_one, lit_half]
  cases oneSite <;> simp only [if_true, if_false, Bool.false_eq_true] <;> ring

theorem distanceZ_linear (main ref : AGroup ℝ) (axis : V3 ℝ) (a1 b1 a2 b2 : List (V3 ℝ)) (k : ℝ) (oneSite : Bool)
    (hl1 : a1.length = b1.length) (hl2 : a2.length = b2.length) :
    distanceZTF main ref axis (addF a1 (applied k b1)) (addF a2 (applied k b2)) oneSite =
      distanceZTF main ref axis a1 a2 oneSite + k * distanceZTF main ref axis b1 b2 oneSite := by
  simp only [distanceZTF, addF, applied, groupForce_zipWith_add _ _ (hl1.trans (List.length_map _).symm),
    groupForce_zipWith_add _ _ (hl2.trans (List.length_map _).symm), groupForce_map_smul, V3.dot_add_left,
    V3.dot_sub_left, V3.dot_smul_left, lit_half]
  cases oneSite <;> simp only [if_true, if_false, Bool.false_eq_true] <;> ring

theorem gyration_linear (g : AGroup ℝ) (a b : List (V3 ℝ)) (k : ℝ) (hl : a.length = b.length) (hg : a.length = g.length) :
    gyrationTF g (addF a (applied k b)) = gyrationTF g a + k * gyrationTF g b := by
  have _ := hg  -- not needed
  unfold gyrationTF addF applied
  simp only [foldl_add_eq_sum, lit_zero, zero_add]
  exact sum_zip_linear _ _ a b k hl

/-! ## combination of components with coefficients -/

/-- a force `f` on the variable is applied to component `i` as `f cᵢ`; each component measures `f cᵢ` back; the
    variable reports `Σ (f cᵢ) cᵢ / Σ cᵢ² = f` (in particular for ±1 combinations) -/
theorem combination_inverse (cs : List ℝ) (f : ℝ) (hc : (cs.map fun c => c * c).sum ≠ 0) :
    combineTF (cs.map fun c => (c, f * c)) = f := by
  unfold combineTF
  rw [foldl_add_zero, foldl_add_zero, List.map_map, List.map_map]
  simp only [Function.comp_def, mul_assoc, List.sum_map_mul_left]
  exact mul_div_cancel_right₀ f hc

/-! ## what is handed to the biases: timing and subtraction of Colvars' own force -/

/-- late total forces: at the first step of a run there is no force of a previous step, and the stored value is kept;
    afterwards the engine's force (which refers to the previous step) is taken -/
theorem timing_late (m : Sys ℝ) (c : Clock) (i : StepIn ℝ) (v : CvSt ℝ) (hcalc : v.tfCalc = true)
    (hsame : m.tfSame = false) (hsub : v.subtract = false) :
    (cvUpdate m c i v).ft =
      if c.stepRelative > 0 then (if m.tfLoop then i.tfz v.atom + lookupF m.lastApplied v.atom else i.tfz v.atom) else v.ft := by
  unfold cvUpdate
  simp only [hcalc, hsame, hsub, Bool.not_true, Bool.not_false, Bool.and_true, Bool.false_and, Bool.false_eq_true,
    if_false]

/-- same-step total forces are taken as given at every step, and nothing of Colvars is contained in them -/
theorem timing_same_step (m : Sys ℝ) (c : Clock) (i : StepIn ℝ) (v : CvSt ℝ) (hcalc : v.tfCalc = true)
    (hsame : m.tfSame = true) :
    (cvUpdate m c i v).ft = i.tfz v.atom := by
  unfold cvUpdate
  simp only [hcalc, hsame, Bool.not_true, Bool.and_false, Bool.false_and, Bool.false_eq_true, if_false, if_true]

/-- `subtractAppliedForce`: the force Colvars applied to the variable at the step the engine's force refers to is
    removed (when a force was received at all) -/
theorem subtract_applied (m : Sys ℝ) (c : Clock) (i : StepIn ℝ) (v : CvSt ℝ) (hcalc : v.tfCalc = true)
    (hsame : m.tfSame = false) (hsub : v.subtract = true) (hrel : c.stepRelative > 0)
    (hnz : (if m.tfLoop then i.tfz v.atom + lookupF m.lastApplied v.atom else i.tfz v.atom) ≠ 0) :
    (cvUpdate m c i v).ft = (if m.tfLoop then i.tfz v.atom + lookupF m.lastApplied v.atom else i.tfz v.atom) - v.fOld := by
  unfold cvUpdate
  have hpos : (if m.tfLoop then i.tfz v.atom + lookupF m.lastApplied v.atom else i.tfz v.atom) *
      (if m.tfLoop then i.tfz v.atom + lookupF m.lastApplied v.atom else i.tfz v.atom) > 0.0 := by
    rw [lit_zero]; exact mul_self_pos.mpr hnz
  simp only [hcalc, hsame, hsub, hrel, Bool.not_true, Bool.not_false, Bool.and_true, Bool.false_eq_true,
    if_false, if_true, hpos, decide_true]

/-- the point the hypothesis `hnz` of `subtract_applied` excludes: when the engine's total force on the variable is exactly zero the
    code takes it for "not measured" (`if (ft.norm2() > 0.0) ft -= f_old`) and reports `0` instead of `−f_old`: the property's
    clause "excludes Colvars' own applied force" fails at this one input (listed finding; replayed on the implementation by the
    directed case `zero_total` of the C07 generator) -/
theorem subtract_applied_zero_total (m : Sys ℝ) (c : Clock) (i : StepIn ℝ) (v : CvSt ℝ) (hcalc : v.tfCalc = true)
    (hsame : m.tfSame = false) (hsub : v.subtract = true) (hrel : c.stepRelative > 0) (hloop : m.tfLoop = false)
    (hz : i.tfz v.atom = 0) :
    (cvUpdate m c i v).ft = 0 := by
  unfold cvUpdate
  simp only [hcalc, hsame, hsub, hrel, hloop, hz, Bool.not_true, Bool.not_false, Bool.and_true, Bool.false_eq_true,
    if_false, if_true]
  norm_num

end Cv.C07
