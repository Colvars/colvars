import CvModel.Deps
/-!
# C13 — lemmas about the dependency engine `CvModel/Deps.lean` (namespace `Cv.C13`)

A dry run of `enable` returns the forest it was given: every exit and every fold step has it as first component.
-/
open Cv Cv.Deps Cv.Gen
namespace Cv.C13

theorem ite_fst {α β : Type} {c : Prop} [Decidable c] {a b : α × β} {x : α} (ha : a.1 = x) (hb : b.1 = x) :
    (if c then a else b).1 = x := by
  split <;> assumption

/-- a fold whose every step keeps the first component keeps it -/
theorem foldl_fst {α β γ : Type} {step : α × β → γ → α × β} {F : α} (h : ∀ acc x, acc.1 = F → (step acc x).1 = F)
    (l : List γ) {acc : α × β} (h0 : acc.1 = F) : (l.foldl step acc).1 = F :=
  List.foldlRecOn l step h0 fun acc ih x _ => h acc x ih

/-! The folds `r1`, `tested`, `r2`, `r3` of `enable`'s body (`CvModel/Deps.lean`) with `dry := true`, `err := false`
substituted; `rw [enable]` in `C13.enable_dry_pure` must produce exactly these terms: keep in step with the model. -/
section
variable (n : Nat) (ih : ∀ (F : Forest) (o f : Nat) (tl : Bool), (enable n F o f true tl false).1 = F)
include ih

/-- `requires_self` -/
theorem dry_self_fold (F : Forest) (o : Nat) (l : List Nat) (acc : Forest × Bool) (h : acc.1 = F) :
    (l.foldl (fun (acc : Forest × Bool) g =>
        if !acc.2 then acc else enable n acc.1 o g true false false) acc).1 = F :=
  foldl_fst (fun _ _ h => ite_fst h ((ih ..).trans h)) l h

/-- the alternatives of one `requires_alt` entry, tested -/
theorem dry_tested_fold (F : Forest) (o : Nat) (l : List Nat) (t : Forest × Option Nat) (h : t.1 = F) :
    (l.foldl (fun (t : Forest × Option Nat) g =>
        match t.2 with
        | some _ => t
        | none =>
          let r := enable n t.1 o g true false false
          (r.1, if r.2 then some g else none)) t).1 = F := by
  refine foldl_fst (fun t g h => ?_) l h
  split
  · exact h
  · exact (ih ..).trans h

/-- `requires_alt` -/
theorem dry_alt_fold (F : Forest) (o f : Nat) (l : List (List Nat)) (acc : Forest × Bool) (h : acc.1 = F) :
    (l.foldl (fun (acc : Forest × Bool) alts =>
        if !acc.2 then acc else
        let tested := alts.foldl (fun (t : Forest × Option Nat) g =>
            match t.2 with
            | some _ => t
            | none =>
              let r := enable n t.1 o g true false false
              (r.1, if r.2 then some g else none)) (acc.1, none)
        match tested.2 with
        | none =>
          if !true then (alts.foldl (fun F g => (enable n F o g false false true).1) tested.1, false) else (tested.1, false)
        | some g =>
          if !true || false then
            let F' := (enable n tested.1 o g false false false).1
            (setF F' o f { (getF F' o f) with altRefs := (getF F' o f).altRefs ++ [g] }, true)
          else (tested.1, true)) acc).1 = F := by
  refine foldl_fst (fun acc alts h => ite_fst h ?_) l h
  have ht := dry_tested_fold n ih F o alts (acc.1, none) h
  dsimp only
  split <;> exact ht

/-- `requires_children` -/
theorem dry_children_fold (F : Forest) (o : Nat) (l : List Nat) (acc : Forest × Bool) (h : acc.1 = F) :
    (l.foldl (fun (acc : Forest × Bool) g =>
        (childrenOf acc.1 o).foldl (fun (acc : Forest × Bool) ch =>
          if !acc.2 then acc else enable n acc.1 ch g (true || !isActive acc.1 o) false false) acc) acc).1 = F :=
  foldl_fst (fun _ _ h => foldl_fst (fun _ _ h => ite_fst h ((ih ..).trans h)) _ h) l h

end

theorem decr_eq_setF (fuel : Nat) (F : Forest) (o g : Nat) (hr : (getF F o g).refCount > 0)
    (h : ¬ ((getF F o g).refCount - 1 = 0 ∧ (decl (clsOf F o) g).ftype = 0)) :
    decr (fuel + 1) F o g = setF F o g { (getF F o g) with refCount := (getF F o g).refCount - 1 } := by
  rw [decr]
  dsimp only
  rw [if_neg (Int.not_le.mpr hr), if_neg h]

end Cv.C13
