import CvProps.C17Lemmas
import CvProps.C18
/-!
# C17 — extended-Lagrangian coordinates follow the documented integrator

Property theorems about `CvModel/ExtLag.lean` at `α := ℝ`.
`extIntegrate` is one `update_extended_Lagrangian`; the kinetic and coupling energies it stores refer to the
coordinate *before* the position update, which the new state keeps as `prevX`.
-/
open Cv

namespace Cv.C17

/-! ## frictionless: a shadow energy is conserved exactly -/

/-- frictionless, no reflecting boundary, not periodic; **any** time-step factor of the variable -/
structure Plain (p : ExtParams ℝ) : Prop where
  nolangevin : p.langevin = false
  nolo : p.reflLower = none
  noup : p.reflUpper = none
  noper : p.per = none

/-- reported kinetic + coupling energy of a state, with the work of a constant bias force `fb` -/
noncomputable def energyOf (x fb : ℝ) (s : ExtState ℝ) : ℝ := s.ek + s.ep - fb * (s.prevX - x)

/-- the shadow correction: `h²k²/(8m)` times the squared displacement from the equilibrium point `x + fb/k` -/
noncomputable def shadowOf (p : ExtParams ℝ) (x fb : ℝ) (s : ExtState ℝ) : ℝ :=
  energyOf x (instForce p fb) s -
    (slowDt p * slowDt p * p.k * p.k / (8 * p.mass)) * (s.prevX - x - instForce p fb / p.k) ^ 2

/-- iterate the integrator with a static variable value and a constant bias force -/
noncomputable def iter (p : ExtParams ℝ) (x fb : ℝ) : Nat → ExtState ℝ → ExtState ℝ
  | 0, s => s
  | n + 1, s => iter p x fb n (extIntegrate p s x fb 0 0)

/-- one step: the shadow energy of two consecutive updates is exactly the same, for every time step, force constant
    and mass -/
theorem shadow_step (p : ExtParams ℝ) (hp : Plain p) (hm : p.mass ≠ 0) (hk : p.k ≠ 0) (s : ExtState ℝ) (x fb : ℝ) :
    shadowOf p x fb (extIntegrate p (extIntegrate p s x fb 0 0) x fb 0 0) =
    shadowOf p x fb (extIntegrate p s x fb 0 0) := by
  obtain ⟨hv, hx⟩ := extIntegrate_free p s x fb 0 0 hp.noper hp.nolo hp.noup
  obtain ⟨e3, e2⟩ := extV3_X2_frictionless p s x fb 0 hp.noper hp.nolangevin
  obtain ⟨a1, a2, a3⟩ := extIntegrate_energies p s x fb 0 0 hp.noper
  obtain ⟨b1, b2, b3⟩ := extIntegrate_energies p (extIntegrate p s x fb 0 0) x fb 0 0 hp.noper
  unfold shadowOf energyOf
  rw [b1, b2, b3, a1, a2, a3]
  exact shadow_algebra hm hk (hv.trans e3) (by rw [hx, e2, hv])

/-- hence exactly conserved along any number of steps: no drift -/
theorem shadow_invariant (p : ExtParams ℝ) (hp : Plain p) (hm : p.mass ≠ 0) (hk : p.k ≠ 0) (s : ExtState ℝ) (x fb : ℝ) (n : Nat) :
    shadowOf p x fb (iter p x fb (n + 1) s) = shadowOf p x fb (iter p x fb 1 s) := by
  induction n generalizing s with
  | zero => rfl
  | succ n ih =>
    have h1 : iter p x fb (n + 1 + 1) s = iter p x fb (n + 1) (extIntegrate p s x fb 0 0) := rfl
    rw [h1, ih (extIntegrate p s x fb 0 0)]
    exact shadow_step p hp hm hk s x fb

/-- so the reported energy differs from its initial value only by `h²k²/(8m)` times a difference of squared
    displacements: the fluctuation is second order in the time step and there is no secular term -/
theorem energy_fluctuation (p : ExtParams ℝ) (hp : Plain p) (hm : p.mass ≠ 0) (hk : p.k ≠ 0) (s : ExtState ℝ) (x fb : ℝ) (n : Nat) :
    let a := iter p x fb (n + 1) s
    let b := iter p x fb 1 s
    energyOf x (instForce p fb) a - energyOf x (instForce p fb) b =
      (slowDt p * slowDt p * p.k * p.k / (8 * p.mass)) *
        ((a.prevX - x - instForce p fb / p.k) ^ 2 - (b.prevX - x - instForce p fb / p.k) ^ 2) := by
  intro a b
  have h := shadow_invariant p hp hm hk s x fb n
  unfold shadowOf at h
  show energyOf x (instForce p fb) (iter p x fb (n + 1) s) - energyOf x (instForce p fb) (iter p x fb 1 s) = _
  linear_combination h

/-! ## where the forces go -/

/-- the atoms feel the coupling spring (times the variable's time-step factor) plus the biases that bypass the
    extended coordinate, and nothing else; biases on the extended coordinate act on it, scaled back by the factor -/
theorem routing (p : ExtParams ℝ) (s : ExtState ℝ) (x fb fbActual rnd : ℝ) (hper : p.per = none) :
    let s' := extIntegrate p s x fb fbActual rnd
    s'.fAtoms = p.k * (s.xExt - x) * (p.tsf : ℝ) + fbActual ∧ s'.fr = fb / (p.tsf : ℝ) := by
  obtain ⟨h1, h2, _⟩ := extIntegrate_forces p s x fb fbActual rnd hper
  exact ⟨h1, h2⟩

/-- the total force reported for the next step: spring only when applied forces are subtracted, spring + bias otherwise -/
theorem reported_total_force (p : ExtParams ℝ) (s : ExtState ℝ) (x fb fbActual rnd : ℝ) (hper : p.per = none) :
    (extIntegrate p s x fb fbActual rnd).ftReported =
      (if p.subtract then - p.k * (s.xExt - x) else fb / (p.tsf : ℝ) - p.k * (s.xExt - x)) := by
  exact (extIntegrate_forces p s x fb fbActual rnd hper).2.2

/-! ## a reflecting wall mirrors the overshoot -/

/-- unless the code raises its own "still outside after reflection" error, the new coordinate is inside the
    reflecting boundaries -/
theorem reflect_inside (p : ExtParams ℝ) (s : ExtState ℝ) (x fb fbActual rnd : ℝ) (hper : p.per = none)
    (herr0 : s.err = false) (herr : (extIntegrate p s x fb fbActual rnd).err = false) :
    (∀ lb, p.reflLower = some lb → lb ≤ (extIntegrate p s x fb fbActual rnd).xExt) ∧
    (∀ ub, p.reflUpper = some ub → (extIntegrate p s x fb fbActual rnd).xExt ≤ ub) := by
  obtain ⟨hx, _, he⟩ := extIntegrate_reflect p s x fb fbActual rnd
  rw [he, herr0, Bool.false_or] at herr
  rw [hx]
  simp only [hper]
  exact reflectS_inside _ _ _ _ _ herr

/-- a reflection mirrors the overshoot and reverses the mid-step velocity -/
theorem reflect_lower (p : ExtParams ℝ) (hl : p.langevin = false) (s : ExtState ℝ) (x fb fbActual rnd lb : ℝ) (hper : p.per = none)
    (hlo : p.reflLower = some lb) (hup : p.reflUpper = none) :
    let n : ℝ := (p.tsf : ℝ)
    let fExt := fb / n + (-0.5 * p.k) * (2 * (s.xExt - x))
    let v2 := s.vExt + p.dt * n * fExt / p.mass
    let x2 := s.xExt + p.dt * n * v2
    x2 < lb →
      (extIntegrate p s x fb fbActual rnd).xExt = 2 * lb - x2 ∧
      (extIntegrate p s x fb fbActual rnd).vExt = -0.5 * (s.vExt + v2) := by
  intro n fExt v2 x2 hlt
  obtain ⟨hx, hv, _⟩ := extIntegrate_reflect p s x fb fbActual rnd
  obtain ⟨e3, e2⟩ := extV3_X2_frictionless p s x fb rnd hper hl
  -- the statement writes the spring force as the integrator computes it: `-½k · 2(X - x)` for `-k (X - x)`
  have hspring : fExt = instForce p fb - p.k * (s.xExt - x) := by
    rw [instForce]
    simp only [fExt, n, lit_half]
    ring
  have e : extV3 p s x fb rnd = v2 := by rw [e3, ← hspring, slowDt]
  rw [e] at e2
  rw [hx, hv, hper, hlo, hup, e2, e]
  exact reflectS_lower lb none s.vExt x2 v2 hlt

/-! ## repeated steps, and what a step reports -/

/-- a repeated step (same relative step number as the last processed one, no jump of the variable) restores the
    coordinate and velocity that were reported at that step -/
theorem repeated_step_reverts (p : ExtParams ℝ) (c : Clock) (s : ExtState ℝ) (x : ℝ)
    (hset : s.set = true) (hrep : c.stepRelative = s.prevTimestep) (hnz : c.stepRelative ≠ 0 ∨ s.afterRestart = true)
    (hjump : ¬ dist2S p.per x s.xOld / (p.width * p.width) > 0.25) :
    (extPrepare p c true s x).xExt = s.prevX ∧ (extPrepare p c true s x).vExt = s.prevV := by
  rw [extPrepare_repeat p c s x hset hnz hrep hjump]
  exact ⟨rfl, rfl⟩

/-- so repeating a step does not advance the coordinate twice: running the step again from the same inputs leaves
    exactly the state the first execution left -/
theorem repeat_is_idempotent (p : ExtParams ℝ) (c : Clock) (s : ExtState ℝ) (x : ℝ) (fbOf : ℝ → ℝ) (fbA rnd : ℝ)
    (hnz : c.stepRelative ≠ 0) (hset : s.set = true) (hnrep : c.stepRelative ≠ s.prevTimestep)
    (hjump : ¬ dist2S p.per x x / (p.width * p.width) > 0.25) :
    let s1 := extStep p c s x fbOf fbA rnd
    extStep p { c with cont := true } s1 x fbOf fbA rnd = s1 := by
  intro s1
  have hs1 : s1 = extEnd c (extIntegrate p { s with afterRestart := false } x (fbOf s.xExt) fbA rnd) x :=
    extStep_ordinary p c s x fbOf fbA rnd hset (Or.inl hnz) hnrep
  clear_value s1
  subst hs1
  -- the second execution finds the first's step number: a repeated step
  refine (extStep_repeat p _ _ x fbOf fbA rnd ?_ (Or.inl hnz) ?_ ?_).trans ?_
  · exact hset
  · rfl
  · exact hjump
  · exact extIntegrate_again p c { s with afterRestart := false } _ x (fbOf s.xExt) fbA rnd rfl

/-- on an ordinary step the value and velocity reported are those left by the previous integration: value, velocity,
    energies and forces of a step all refer to the same time -/
theorem same_time_origin (p : ExtParams ℝ) (c : Clock) (s : ExtState ℝ) (x : ℝ)
    (hset : s.set = true) (hnz : c.stepRelative ≠ 0) (hnrep : c.stepRelative ≠ s.prevTimestep) :
    (extPrepare p c true s x).xExt = s.xExt ∧ (extPrepare p c true s x).vExt = s.vExt := by
  rw [extPrepare_ordinary p c s x hset (Or.inl hnz) hnrep]
  exact ⟨rfl, rfl⟩

/-- first step of a fresh run: the coordinate starts on the variable (clamped to the reflecting boundaries), at rest -/
theorem initialisation (p : ExtParams ℝ) (c : Clock) (s : ExtState ℝ) (x : ℝ) (h0 : c.stepRelative = 0)
    (hr : s.afterRestart = false) (hnrep : s.prevTimestep ≠ 0) (hlo : p.reflLower = none) (hup : p.reflUpper = none) :
    (extPrepare p c true s x).xExt = x ∧ (extPrepare p c true s x).vExt = 0 := by
  rw [extPrepare_init p c s x h0 hr hnrep hlo hup]
  exact ⟨rfl, rfl⟩

/-! ## force constant and mass from fluctuation and time constant -/

/-- `k = k_B T / σ²` and the mass makes the free oscillation period equal to the requested time constant:
    `2π √(m/k) = τ`, i.e. `m/k = τ²/(4π²)` -/
theorem params (kB T tol tau : ℝ) (hkb : kB ≠ 0) (hT : T ≠ 0) (htol : tol ≠ 0) :
    extForceK kB T tol = kB * T / tol ^ 2 ∧
    extMass kB T tol tau Real.pi / extForceK kB T tol = tau ^ 2 / (4 * Real.pi ^ 2) := by
  unfold extForceK extMass
  have hpi := Real.pi_ne_zero
  refine ⟨by rw [pow_two], ?_⟩
  rw [show (4.0 : ℝ) = 4 by norm_num]
  field_simp

/-! ## periodic variable: gradient spring, wrapped coordinate -/

/-- for a periodic variable the coupling energy `½k·dist2(x_ext, x)` (minimum image) and the spring force the integrator uses
    (`−½k·dist2_lgrad(x_ext, x)`) belong together: away from the cut locus the force is minus the derivative of the energy with
    respect to the extended coordinate.  Rules out an energy from the minimum-image distance with a force from the plain
    difference, which is what a variable-level `dist2_lgrad` that does not delegate to the component gives (seeded change C17-6). -/
theorem periodic_spring_is_gradient (k P xExt x : ℝ) (hP : 0 < P) (hcut : ∀ n : ℤ, (xExt - x) / P + 0.5 ≠ n) :
    HasDerivAt (fun y => 0.5 * k * dist2S (some P) y x) (-((-0.5 * k) * dist2SGrad (some P) xExt x)) xExt := by
  have h := (Cv.C18.grad_periodic P hP xExt x hcut).const_mul (0.5 * k)
  refine h.congr_deriv ?_
  ring

/-- whatever the state, the forces and the random number, the extended coordinate of a periodic variable is inside the period
    interval centred on `wrapAround` after every integration, and it is the unwrapped result moved by a whole number of periods
    (so its minimum-image distance to anything is unchanged). -/
theorem periodic_coordinate_wrapped (p : ExtParams ℝ) (P : ℝ) (hper : p.per = some P) (hP : 0 < P)
    (s : ExtState ℝ) (x fb fa rnd : ℝ) :
    p.wrapC - P / 2 ≤ (extIntegrate p s x fb fa rnd).xExt ∧ (extIntegrate p s x fb fa rnd).xExt < p.wrapC + P / 2 ∧
    ∀ y, dist2S (some P) (extIntegrate p s x fb fa rnd).xExt y =
      dist2S (some P) (reflectS p.reflLower p.reflUpper s.vExt (extX2 p s x fb rnd) (extV3 p s x fb rnd)).1 y := by
  have h := (extIntegrate_reflect p s x fb fa rnd).1
  rw [hper] at h
  simp only at h
  rw [h]
  exact ⟨(Cv.C18.wrap_range P p.wrapC _ hP).1, (Cv.C18.wrap_range P p.wrapC _ hP).2,
    fun y => Cv.C18.wrap_dist P p.wrapC _ y hP⟩

/-! ## friction and noise with the slow step `n·dt` -/

/-- with friction on and no reflecting boundary, the velocity left by one update is the documented [O] step applied to
    the kicked velocity: damped by `exp(-γ·h)` with the **slow** time step `h = dt·n`, plus `σ·ξ/m` -/
theorem langevin_step (p : ExtParams ℝ) (hl : p.langevin = true) (hlo : p.reflLower = none) (hup : p.reflUpper = none)
    (hper : p.per = none) (s : ExtState ℝ) (x fb fa rnd : ℝ) :
    (extIntegrate p s x fb fa rnd).vExt =
      Real.exp (-(slowDt p * p.gamma)) *
        (s.vExt + slowDt p * (instForce p fb - p.k * (s.xExt - x)) / p.mass) + p.sigma * rnd / p.mass ∧
    (extIntegrate p s x fb fa rnd).xExt =
      s.xExt + slowDt p / 2 * (s.vExt + slowDt p * (instForce p fb - p.k * (s.xExt - x)) / p.mass) +
        slowDt p / 2 * (extIntegrate p s x fb fa rnd).vExt := by
  obtain ⟨hv, hx⟩ := extIntegrate_free p s x fb fa rnd hper hlo hup
  rw [hx, hv, extX2_nonper p s x fb rnd hper, extV3_nonper p s x fb rnd hper, if_pos hl]
  exact ⟨rfl, rfl⟩

/-- fluctuation–dissipation for the slow step: the damping factor of `langevin_step` and the noise amplitude computed by
    `init_extended_Lagrangian` (`extSigma`, with the same factor `n`) leave the Maxwell variance `kB·T/m` of the velocity
    unchanged — `c²·(kB T/m) + (σ/m)² = kB T/m`.  Rules out a damping factor or a noise amplitude computed with `dt` instead of
    `n·dt` (seeded change C17-3). -/
theorem langevin_fluctuation_dissipation (gamma dt kB T mass : ℝ) (n : Int) (hm : 0 < mass) (hT : 0 ≤ kB * T)
    (hg : 0 ≤ gamma * dt * (n : ℝ)) :
    (Real.exp (-(dt * (n : ℝ) * gamma))) ^ 2 * (kB * T / mass) + (extSigma gamma dt kB T mass n / mass) ^ 2 = kB * T / mass := by
  unfold extSigma
  simp only [prim_sqrt, prim_exp, lit]
  -- the squared damping factor is the exponential under the root, and that is at most 1
  have he : Real.exp (-(dt * (n : ℝ) * gamma)) ^ 2 = Real.exp (-2 * gamma * dt * (n : ℝ)) := by
    rw [← Real.exp_nat_mul]; congr 1; push_cast; ring
  have hle : Real.exp (-2 * gamma * dt * (n : ℝ)) ≤ 1 := Real.exp_le_one_iff.2 (by linarith)
  have hnn : 0 ≤ (1 - Real.exp (-2 * gamma * dt * (n : ℝ))) * mass * kB * T := by
    rw [mul_assoc _ kB T]
    exact mul_nonneg (mul_nonneg (sub_nonneg.2 hle) hm.le) hT
  rw [he, div_pow, Real.sq_sqrt hnn]
  field_simp
  ring

/-- `hg` can be met: friction 0.001, time step 0.5, `n = 3` -/
example : (0 : ℝ) ≤ 0.001 * 0.5 * ((3 : Int) : ℝ) := by norm_num

/-! ## non-vacuity -/

example : ∃ p : ExtParams ℝ, Plain p ∧ p.mass ≠ 0 ∧ p.k ≠ 0 :=
  ⟨{ k := 2, mass := 3, dt := 1, gamma := 0, sigma := 0, wrapC := 0, width := 1 }, ⟨rfl, rfl, rfl, rfl⟩, by norm_num, by norm_num⟩

/-- also with a time-step factor other than 1 -/
example : ∃ p : ExtParams ℝ, Plain p ∧ p.mass ≠ 0 ∧ p.k ≠ 0 ∧ p.tsf = 3 :=
  ⟨{ k := 2, mass := 3, dt := 1, tsf := 3, gamma := 0, sigma := 0, wrapC := 0, width := 1 }, ⟨rfl, rfl, rfl, rfl⟩,
   by norm_num, by norm_num, rfl⟩

end Cv.C17
