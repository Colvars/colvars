import CvProps.Base
/-!
# Helper lemmas for C19: one step of the line schedule, the running average on a started state, windows of a
sequence kept as lists (for the correlation histories).  Namespace `Cv.C19`.
-/
open Cv

namespace Cv.C19

-- stated again as `C17.dist2S_none` and `C18.dist2S_none` (`ValueLemmas`)
theorem dist2S_none (a b : ℝ) : dist2S none a b = (a - b) * (a - b) := rfl

/-- the `lab` of `trajStep` (`CvModel/Output.lean`), tied to it by `rfl` in `trajStep_fst` and `trajStep_snd` -/
def labCond (freq : Int) (c : Clock) (flag : Bool) : Bool :=
  decide (c.stepRelative = 0) || flag || decide (Int.tmod c.it (freq * 1000) = 0)

theorem trajStep_fst (freq : Int) (c : Clock) (flag : Bool) :
    (trajStep freq c flag).1 =
      (if labCond freq c flag then [TrajLine.label] else []) ++
      (if decide (Int.tmod c.it freq = 0) then [TrajLine.data c.it] else []) := rfl

theorem trajStep_snd (freq : Int) (c : Clock) (flag : Bool) :
    (trajStep freq c flag).2 = (if labCond freq c flag then false else flag) := rfl

theorem labCond_of_flag (freq : Int) (c : Clock) : labCond freq c true = true := by
  simp [labCond]

theorem flag_of_not_labCond (freq : Int) (c : Clock) (flag : Bool) (h : labCond freq c flag = false) :
    flag = false := by
  cases flag
  · rfl
  · simp [labCond] at h

/-- the flag is lowered, or no label was written and it was already down -/
theorem trajStep_snd_false (freq : Int) (c : Clock) (flag : Bool) : (trajStep freq c flag).2 = false := by
  rw [trajStep_snd]
  cases h : labCond freq c flag
  · simpa using flag_of_not_labCond freq c flag h
  · rfl

/-- the second branch of `runAveStep` (`CvModel/Output.lean`), `let`s substituted, tied by `rfl`: keep in step -/
theorem runAveStep_started (length : Nat) (per : Option ℝ) (s : RunAve ℝ) (x : ℝ) (hs : s.started = true) :
    runAveStep length per s x =
      ({ s with hist := (x :: s.hist).take (length - 1) },
       if s.hist.length + 1 ≥ length then
         some ((s.hist.foldl (· + ·) x) * (1.0 / (length : ℝ)),
           Prim.sqrt ((s.hist.foldl (fun a xi => a + dist2S per xi ((s.hist.foldl (· + ·) x) * (1.0 / (length : ℝ))))
             (0.0 + dist2S per x ((s.hist.foldl (· + ·) x) * (1.0 / (length : ℝ))))) *
               (1.0 / ((length - 1 : Nat) : ℝ))))
       else none) := by
  unfold runAveStep
  rw [hs]
  rfl

/-- with a full window: the mean of the current value and the `length - 1` stored ones, and the root of their mean squared
    distance to it (`dist2S per`, so for a periodic variable the deviations are shortest-image ones, the mean is not) -/
theorem runAveStep_full (length : Nat) (hl : 2 ≤ length) (per : Option ℝ) (s : RunAve ℝ) (x : ℝ) (hs : s.started = true)
    (hh : s.hist.length = length - 1) :
    (runAveStep length per s x).2 =
      some ((x :: s.hist).sum / (length : ℝ),
        Real.sqrt (((x :: s.hist).map fun v => dist2S per v ((x :: s.hist).sum / (length : ℝ))).sum / ((length : ℝ) - 1))) := by
  have hcast : ((length - 1 : Nat) : ℝ) = (length : ℝ) - 1 := by
    rw [Nat.cast_sub (by omega : 1 ≤ length), Nat.cast_one]
  have hmean : (s.hist.foldl (· + ·) x) * (1.0 / (length : ℝ)) = (x :: s.hist).sum / (length : ℝ) := by
    rw [foldl_add_eq_sum, lit_one, List.sum_cons]
    ring
  rw [runAveStep_started length per s x hs, if_pos (by omega), hmean,
    foldl_add_map_eq_sum (fun xi => dist2S per xi _), lit_zero, lit_one, hcast, prim_sqrt, List.map_cons,
    List.sum_cons (a := dist2S per x _), zero_add, mul_one_div]

/-- a new first element pushed onto a window of at most `K` -/
theorem cons_take_range {β : Type} (f g : Nat → β) (x : β) (a K : Nat) (h0 : g 0 = x)
    (hsucc : ∀ i, g (i + 1) = f i) :
    (x :: (List.range (min a K)).map f).take K = (List.range (min (a + 1) K)).map g := by
  have h1 : x :: (List.range (min a K)).map f = (List.range (min a K + 1)).map g := by
    rw [List.range_succ_eq_map, List.map_cons, h0, List.map_map]
    exact congrArg _ (List.map_congr_left fun i _ => (hsucc i).symm)
  rw [h1, ← List.map_take, List.take_range]
  congr 2
  omega

end Cv.C19
