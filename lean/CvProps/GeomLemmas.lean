import CvProps.Base
/-! Facts about `CvModel/Geom.lean` at `α := ℝ` shared by C01, C02 and C07.  Identities between vectors go component
by component (`ext <;> simp only [v3] <;> ring`); identities between scalars from the bilinearity of `V3.dot`, so that
`ring` sees scalar products as atoms.  Namespace `Cv.Geom`, except `Cv.C02L.add_x` … `smul_z`, `litm1` and `Cv.C07.vsum`, `vsum_nil`. -/
open Cv Cv.Geom

/-! ## vectors, component by component -/
namespace Cv.C02L
theorem litm1 : (-1.0 : ℝ) = -1 := by norm_num
@[simp, v3] theorem add_x (a b : V3 ℝ) : (V3.add a b).x = a.x + b.x := rfl
@[simp, v3] theorem add_y (a b : V3 ℝ) : (V3.add a b).y = a.y + b.y := rfl
@[simp, v3] theorem add_z (a b : V3 ℝ) : (V3.add a b).z = a.z + b.z := rfl
@[simp, v3] theorem sub_x (a b : V3 ℝ) : (V3.sub a b).x = a.x - b.x := rfl
@[simp, v3] theorem sub_y (a b : V3 ℝ) : (V3.sub a b).y = a.y - b.y := rfl
@[simp, v3] theorem sub_z (a b : V3 ℝ) : (V3.sub a b).z = a.z - b.z := rfl
@[simp, v3] theorem smul_x (k : ℝ) (a : V3 ℝ) : (V3.smul k a).x = k * a.x := rfl
@[simp, v3] theorem smul_y (k : ℝ) (a : V3 ℝ) : (V3.smul k a).y = k * a.y := rfl
@[simp, v3] theorem smul_z (k : ℝ) (a : V3 ℝ) : (V3.smul k a).z = k * a.z := rfl
end Cv.C02L

namespace Cv.C07
/-- what the model's folds with `V3.add` compute (`foldl_vadd`) -/
noncomputable def vsum (l : List (V3 ℝ)) : V3 ℝ :=
  ⟨(l.map (·.x)).sum, (l.map (·.y)).sum, (l.map (·.z)).sum⟩

theorem vsum_nil : vsum [] = ⟨0, 0, 0⟩ := rfl
end Cv.C07

namespace Cv.Geom
open Cv.C02L Cv.C07

attribute [ext] V3

@[simp, v3] theorem V3.zero_x : (V3.zero : V3 ℝ).x = 0 := lit_zero
@[simp, v3] theorem V3.zero_y : (V3.zero : V3 ℝ).y = 0 := lit_zero
@[simp, v3] theorem V3.zero_z : (V3.zero : V3 ℝ).z = 0 := lit_zero

theorem V3.sub_add_add (a b v : V3 ℝ) : V3.sub (V3.add a v) (V3.add b v) = V3.sub a b := by
  ext <;> simp only [v3] <;> ring

theorem V3.add_smul_zero (p d : V3 ℝ) : V3.add p (V3.smul 0 d) = p := by
  ext <;> simp only [v3] <;> ring

/-! ### `V3.dot` is bilinear and symmetric -/

theorem V3.dot_def (a b : V3 ℝ) : V3.dot a b = a.x * b.x + a.y * b.y + a.z * b.z := rfl

theorem V3.dot_comm (a b : V3 ℝ) : V3.dot a b = V3.dot b a := by simp only [V3.dot_def]; ring
theorem V3.dot_add_left (a b c : V3 ℝ) : V3.dot (V3.add a b) c = V3.dot a c + V3.dot b c := by
  simp only [V3.dot_def, v3]; ring
theorem V3.dot_add_right (a b c : V3 ℝ) : V3.dot a (V3.add b c) = V3.dot a b + V3.dot a c := by
  simp only [V3.dot_def, v3]; ring
theorem V3.dot_sub_left (a b c : V3 ℝ) : V3.dot (V3.sub a b) c = V3.dot a c - V3.dot b c := by
  simp only [V3.dot_def, v3]; ring
theorem V3.dot_sub_right (a b c : V3 ℝ) : V3.dot a (V3.sub b c) = V3.dot a b - V3.dot a c := by
  simp only [V3.dot_def, v3]; ring
theorem V3.dot_smul_left (k : ℝ) (a b : V3 ℝ) : V3.dot (V3.smul k a) b = k * V3.dot a b := by
  simp only [V3.dot_def, v3]; ring
theorem V3.dot_smul_right (k : ℝ) (a b : V3 ℝ) : V3.dot a (V3.smul k b) = k * V3.dot a b := by
  simp only [V3.dot_def, v3]; ring
theorem V3.dot_zero_left (a : V3 ℝ) : V3.dot V3.zero a = 0 := by simp only [V3.dot_def, v3]; ring
theorem V3.dot_zero_right (a : V3 ℝ) : V3.dot a V3.zero = 0 := by simp only [V3.dot_def, v3]; ring

theorem V3.norm2_nonneg (p : V3 ℝ) : 0 ≤ V3.norm2 p :=
  add_nonneg (add_nonneg (mul_self_nonneg _) (mul_self_nonneg _)) (mul_self_nonneg _)

theorem V3.norm_nonneg (p : V3 ℝ) : 0 ≤ V3.norm p := Real.sqrt_nonneg _

theorem V3.norm_mul_self (p : V3 ℝ) : V3.norm p * V3.norm p = V3.dot p p :=
  Real.mul_self_sqrt (V3.norm2_nonneg p)

theorem V3.norm_def (p : V3 ℝ) : V3.norm p = Real.sqrt (V3.dot p p) := rfl

theorem V3.dot_self_ne_zero {p : V3 ℝ} (hp : V3.norm p ≠ 0) : V3.dot p p ≠ 0 :=
  fun h => hp (by rw [V3.norm_def, h, Real.sqrt_zero])

theorem V3.unit_def (a : V3 ℝ) : V3.unit a = if V3.norm a > 0 then V3.smul (1 / V3.norm a) a else a := by
  show (if V3.norm a > (0.0 : ℝ) then V3.smul ((1.0 : ℝ) / V3.norm a) a else a) = _
  rw [lit_zero, lit_one]

theorem V3.unit_of_norm_ne_zero {p : V3 ℝ} (hp : V3.norm p ≠ 0) : V3.unit p = V3.smul (1 / V3.norm p) p := by
  rw [V3.unit_def, if_pos (lt_of_le_of_ne (V3.norm_nonneg p) (Ne.symm hp))]

/-- `rvector::unit()` leaves a vector of norm zero alone -/
theorem V3.unit_of_norm_eq_zero {p : V3 ℝ} (hp : V3.norm p = 0) : V3.unit p = p := by
  rw [V3.unit_def, if_neg (by rw [hp]; exact lt_irrefl 0)]

theorem V3.dot_eq_zero_of_norm {a : V3 ℝ} (hn : V3.norm a = 0) (d : V3 ℝ) : V3.dot a d = 0 := by
  have h2 : a.x * a.x + a.y * a.y + a.z * a.z = 0 := by
    have := V3.norm_mul_self a; rwa [hn, mul_zero, eq_comm] at this
  obtain ⟨hxy, hz⟩ := (add_eq_zero_iff_of_nonneg (a := a.x * a.x + a.y * a.y) (b := a.z * a.z)
    (add_nonneg (mul_self_nonneg _) (mul_self_nonneg _)) (mul_self_nonneg _)).mp h2
  obtain ⟨hx, hy⟩ := mul_self_add_mul_self_eq_zero.mp hxy
  rw [V3.dot_def, hx, hy, mul_self_eq_zero.mp hz]; ring

/-- whatever the norm: at norm zero both sides vanish (`x / 0 = 0`) -/
theorem V3.dot_unit (a d : V3 ℝ) : V3.dot (V3.unit a) d = V3.dot a d / V3.norm a := by
  by_cases hn : V3.norm a = 0
  · rw [V3.unit_of_norm_eq_zero hn, hn, div_zero, V3.dot_eq_zero_of_norm hn]
  · rw [V3.unit_of_norm_ne_zero hn, V3.dot_smul_left]; ring

theorem V3.dot_unit_unit {a : V3 ℝ} (hn : V3.norm a ≠ 0) : V3.dot (V3.unit a) (V3.unit a) = 1 := by
  rw [V3.dot_unit, V3.dot_comm, V3.dot_unit, ← V3.norm_mul_self]; field_simp

theorem ipow_eq (x : ℝ) (n : Nat) : ipow x n = x ^ n := by
  induction n with
  | zero => simp [ipow, lit_one]
  | succ n ih => simp only [ipow, ih]; ring

theorem invPow_eq (x : ℝ) (k : Nat) : invPow x k = 1 / x ^ k := by rw [invPow, ipow_eq, lit_one]

/-! ## folds as sums -/

@[simp, v3] theorem vsum_x (l : List (V3 ℝ)) : (vsum l).x = (l.map (·.x)).sum := rfl
@[simp, v3] theorem vsum_y (l : List (V3 ℝ)) : (vsum l).y = (l.map (·.y)).sum := rfl
@[simp, v3] theorem vsum_z (l : List (V3 ℝ)) : (vsum l).z = (l.map (·.z)).sum := rfl

theorem vsum_cons (a : V3 ℝ) (l : List (V3 ℝ)) : vsum (a :: l) = V3.add a (vsum l) := rfl

theorem V3.dot_vsum (l : List (V3 ℝ)) (d : V3 ℝ) : V3.dot (vsum l) d = (l.map fun v => V3.dot v d).sum := by
  induction l with
  | nil => simp [V3.dot_def]
  | cons a l ih => rw [vsum_cons, V3.dot_add_left, ih, List.map_cons, List.sum_cons]

theorem foldl_vadd {β : Type} (f : β → V3 ℝ) (l : List β) (acc : V3 ℝ) :
    l.foldl (fun s a => V3.add s (f a)) acc = V3.add acc (vsum (l.map f)) := by
  induction l generalizing acc with
  | nil => ext <;> simp
  | cons a t ih => rw [List.foldl_cons, ih]; ext <;> simp [add_assoc]

theorem foldl_vadd_zero {β : Type} (f : β → V3 ℝ) (l : List β) :
    l.foldl (fun s a => V3.add s (f a)) V3.zero = vsum (l.map f) := by
  rw [foldl_vadd]; ext <;> simp

theorem vsum_map_add {β : Type} (f h : β → V3 ℝ) (l : List β) :
    vsum (l.map fun a => V3.add (f a) (h a)) = V3.add (vsum (l.map f)) (vsum (l.map h)) := by
  ext <;> simp only [v3, List.map_map, Function.comp_def, List.sum_map_add]

theorem vsum_map_smul (f : ℝ) (l : List (V3 ℝ)) : vsum (l.map (V3.smul f)) = V3.smul f (vsum l) := by
  ext <;> simp only [v3, List.map_map, Function.comp_def, List.sum_map_mul_left]

theorem vsum_map_smul_const {β : Type} (w : β → ℝ) (l : List β) (v : V3 ℝ) :
    vsum (l.map fun a => V3.smul (w a) v) = V3.smul (l.map w).sum v := by
  ext <;> simp only [v3, List.map_map, Function.comp_def, List.sum_map_mul_right]

theorem vsum_map_const {β : Type} (l : List β) (v : V3 ℝ) : vsum (l.map fun _ => v) = V3.smul (l.length : ℝ) v := by
  ext <;> simp only [v3, List.map_const', List.map_replicate, List.sum_replicate, nsmul_eq_mul]

theorem vsum_zipWith_add (a b : List (V3 ℝ)) (h : a.length = b.length) :
    vsum (List.zipWith V3.add a b) = V3.add (vsum a) (vsum b) := by
  ext <;> simp only [v3, List.map_zipWith] <;>
    rw [List.sum_add_sum_eq_sum_zipWith_of_length_eq _ _ (by simpa using h), List.zipWith_map]

theorem vsum_perm {β : Type} (f : β → V3 ℝ) {l l' : List β} (h : l.Perm l') : vsum (l.map f) = vsum (l'.map f) := by
  ext <;> simp only [v3, List.map_map] <;> exact (h.map _).sum_eq

theorem vsum_map_modify {β : Type} (h : β → V3 ℝ) (f : β → β) (l : List β) (k : Nat) (hk : k < l.length) :
    vsum ((l.modify k f).map h) = V3.add (V3.sub (vsum (l.map h)) (h l[k])) (h (f l[k])) := by
  ext <;> simp only [v3, List.map_map]
  · exact sum_map_modify (fun a => (h a).x) f l k hk
  · exact sum_map_modify (fun a => (h a).y) f l k hk
  · exact sum_map_modify (fun a => (h a).z) f l k hk

theorem totalMass_eq (g : AGroup ℝ) : totalMass g = (g.map (·.m)).sum := foldl_add_zero _ g

theorem totalMass_pos (g : AGroup ℝ) (hne : g ≠ []) (hpos : ∀ a ∈ g, 0 < a.m) : 0 < totalMass g := by
  rw [totalMass_eq]
  exact List.sum_pos _ (List.forall_mem_map.2 hpos) (by rwa [Ne, List.map_eq_nil_iff])

theorem totalMass_map_r (h : Atom ℝ → V3 ℝ) (g : AGroup ℝ) :
    totalMass (g.map fun a => { a with r := h a }) = totalMass g := by
  rw [totalMass_eq, totalMass_eq, List.map_map]
  rfl

theorem length_cast_ne_zero (g : AGroup ℝ) (hg : g ≠ []) : (g.length : ℝ) ≠ 0 :=
  Nat.cast_ne_zero.mpr (by simpa using hg)

theorem com_eq (g : AGroup ℝ) :
    com g = V3.smul (1 / totalMass g) (vsum (g.map fun a => V3.smul a.m a.r)) := by
  unfold com; rw [foldl_vadd_zero, lit_one]

theorem cog_eq (g : AGroup ℝ) : cog g = V3.smul (1 / (g.length : ℝ)) (vsum (g.map (·.r))) := by
  unfold cog; rw [foldl_vadd_zero, lit_one]

theorem groupForce_eq (l : List (V3 ℝ)) : groupForce l = vsum l := by
  have := foldl_vadd_zero (fun a : V3 ℝ => a) l
  rwa [List.map_id'] at this

theorem groupForce_map_smul (f : ℝ) (l : List (V3 ℝ)) : groupForce (l.map (V3.smul f)) = V3.smul f (groupForce l) := by
  rw [groupForce_eq, groupForce_eq, vsum_map_smul]

theorem groupForce_zipWith_add (a b : List (V3 ℝ)) (h : a.length = b.length) :
    groupForce (List.zipWith V3.add a b) = V3.add (groupForce a) (groupForce b) := by
  rw [groupForce_eq, groupForce_eq, groupForce_eq, vsum_zipWith_add a b h]

theorem weighted_getD (g : AGroup ℝ) (G : V3 ℝ) (k : Nat) (hk : k < g.length) :
    (weighted g G).getD k V3.zero = V3.smul (g[k].m / totalMass g) G :=
  getD_map_of_lt _ g _ _ hk

/-- `set_weighted_gradient`: the atom's gradient paired with its displacement is the centre's gradient paired with the
centre's displacement -/
theorem dot_weighted_getD (g : AGroup ℝ) (G d : V3 ℝ) (k : Nat) (hk : k < g.length) :
    V3.dot ((weighted g G).getD k V3.zero) d = V3.dot G (V3.smul (g[k].m / totalMass g) d) := by
  rw [weighted_getD g G k hk, V3.dot_smul_left, V3.dot_smul_right]

theorem groupForce_weighted (g : AGroup ℝ) (hM : totalMass g ≠ 0) (v : V3 ℝ) : groupForce (weighted g v) = v := by
  simp only [groupForce_eq, weighted, div_eq_mul_inv, vsum_map_smul_const, List.sum_map_mul_right, ← totalMass_eq,
    mul_inv_cancel₀ hM]
  ext <;> simp

/-! ### centred positions: gyration, inertia -/

theorem centered_getD (f : V3 ℝ → V3 ℝ) (g : AGroup ℝ) (k : Nat) (hk : k < g.length) :
    ((centered g).map f).getD k V3.zero = f (V3.sub g[k].r (cog g)) := by
  rw [centered, List.map_map]
  exact getD_map_of_lt _ g _ _ hk

theorem gyration_eq_sqrt_inertia (g : AGroup ℝ) : gyration g = Real.sqrt (inertia g / (g.length : ℝ)) := rfl

theorem inertia_eq (g : AGroup ℝ) : inertia g = ((centered g).map V3.norm2).sum := foldl_add_zero _ _

theorem inertia_nonneg (g : AGroup ℝ) : 0 ≤ inertia g := by
  rw [inertia_eq]
  exact List.sum_nonneg (List.forall_mem_map.2 fun p _ => V3.norm2_nonneg p)

theorem gyration_mul_self (g : AGroup ℝ) : gyration g * gyration g = inertia g / (g.length : ℝ) :=
  Real.mul_self_sqrt (div_nonneg (inertia_nonneg g) (Nat.cast_nonneg _))

/-! ### sums over the pairs of two groups -/

theorem foldl_pairs (g1 g2 : AGroup ℝ) (F : Atom ℝ → Atom ℝ → ℝ) :
    (pairs g1 g2).foldl (fun s ab => s + F ab.1 ab.2) (0.0 : ℝ)
      = (g1.map fun a => (g2.map fun b => F a b).sum).sum := by
  rw [foldl_add_zero, pairs, List.flatMap_def, List.map_flatten, List.sum_flatten]
  simp only [List.map_map, Function.comp_def]

theorem coordNum_eq (g1 g2 : AGroup ℝ) (p : SwParams ℝ) :
    coordNum g1 g2 p = (g1.map fun a => (g2.map fun b => swValue p (reducedDist2 p a b)).sum).sum :=
  foldl_pairs g1 g2 fun a b => swValue p (reducedDist2 p a b)

theorem distanceInv_eq (g1 g2 : AGroup ℝ) (n : Nat) :
    distanceInv g1 g2 n =
      ((g1.map fun a => (g2.map fun b => invPow (V3.norm2 (V3.sub b.r a.r)) (n / 2)).sum).sum *
        (1 / ((g1.length * g2.length : Nat) : ℝ))) ^ (-1 / (n : ℝ)) := by
  unfold distanceInv
  simp only []
  rw [foldl_pairs g1 g2 fun a b => invPow (V3.norm2 (V3.sub b.r a.r)) (n / 2), prim_pow, lit_one]

theorem reducedDist2_eq (p : SwParams ℝ) (a b : Atom ℝ) :
    reducedDist2 p a b = V3.norm2 (V3.sub b.r a.r) / (p.r0 * p.r0) := by
  simp only [reducedDist2, V3.norm2, V3.dot_def, div_mul_div_comm, add_div]

end Cv.Geom
