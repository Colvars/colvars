import CvProps.C12Lemmas
import CvModel.Combine
/-!
# C12 — results do not depend on threading or on the order of evaluation

Property theorems about `CvModel/Sched.lean` and, at the end, the work items of `CvModel/Combine.lean` (core Lean only).
Hypothesis of those about schedules: work items that may run concurrently do not conflict (no item writes a location another one reads or writes) — on the real code this is what
ThreadSanitizer observes on the schedules that are run; the theorems say that under it the result of a step is the
same for every schedule.
-/
open Cv.Sched Cv.C12L

namespace Cv.C12

variable {V : Type}

/-- two non-conflicting honest actions commute -/
theorem swap (a b : Act V) (ha : a.Honest) (hb : b.Honest) (hi : Independent a b) (m : Mem V) :
    b.run (a.run m) = a.run (b.run m) := by
  obtain ⟨hw, hab, hba⟩ := hi
  -- neither action sees the other's write
  have hbf : b.f (a.run m) = b.f m := hb _ _ fun l hl => run_of_ne a m fun h => hab (h ▸ hl)
  have haf : a.f (b.run m) = a.f m := ha _ _ fun l hl => run_of_ne b m fun h => hba (h ▸ hl)
  funext l
  by_cases hlb : l = b.write
  · subst hlb
    rw [run_write, hbf, run_of_ne a _ (Ne.symm hw), run_write]
  · rw [run_of_ne b _ hlb]
    by_cases hla : l = a.write
    · subst hla
      rw [run_write, run_write, haf]
    · rw [run_of_ne a _ hla, run_of_ne a _ hla, run_of_ne b _ hlb]

private theorem exec_move_front (a : Act V) (ha : a.Honest) (pre post : List (Act V))
    (hpre : ∀ b ∈ pre, b.Honest ∧ Independent a b) (m : Mem V) :
    exec m (pre ++ a :: post) = exec m (a :: (pre ++ post)) := by
  induction pre generalizing m with
  | nil => rfl
  | cons b p ih =>
    have hb := hpre b (List.mem_cons_self)
    have ih' := ih (fun c hc => hpre c (List.mem_cons_of_mem _ hc)) (b.run m)
    simp only [List.cons_append, exec_cons] at ih' ⊢
    rw [ih', swap a b ha hb.1 hb.2]

/-- **any interleaving**: two schedules of the same actions that keep every item's own order (whatever the assignment
    of items to threads and the relative speed of the threads) end in the same memory, provided actions of different
    items do not conflict -/
theorem schedule_independent (l₁ l₂ : List (Act V)) (m : Mem V)
    (hperm : l₁.Perm l₂)
    (horder : ∀ i, ofItem i l₁ = ofItem i l₂)
    (hh : ∀ a ∈ l₁, a.Honest)
    (hind : ∀ a ∈ l₁, ∀ b ∈ l₁, a.item ≠ b.item → Independent a b) :
    exec m l₁ = exec m l₂ := by
  induction l₁ generalizing l₂ m with
  | nil => rw [hperm.symm.eq_nil]
  | cons a t ih =>
    -- `a` is the first action of its item in `l₂` as well: move it to the front there
    have ho := (horder a.item).symm
    simp only [ofItem, List.filter_cons, beq_self_eq_true, if_true] at ho
    obtain ⟨pre, post, rfl, hpre, -, hpost⟩ := List.filter_eq_cons_iff.1 ho
    have hpre' : ∀ b ∈ pre, b.Honest ∧ Independent a b := fun b hb =>
      have hb₁ : b ∈ a :: t := hperm.symm.subset (List.mem_append_left _ hb)
      ⟨hh b hb₁, hind a List.mem_cons_self b hb₁ fun h => hpre b hb (by simp [h])⟩
    rw [exec_move_front a (hh a List.mem_cons_self) pre post hpre' m]
    refine ih (pre ++ post) (a.run m) (hperm.trans List.perm_middle).cons_inv (fun i => ?_)
      (fun b hb => hh b (List.mem_cons_of_mem _ hb))
      (fun b hb c hc => hind b (List.mem_cons_of_mem _ hb) c (List.mem_cons_of_mem _ hc))
    have hi := horder i
    simp only [ofItem, List.filter_cons, List.filter_append] at hi ⊢
    by_cases hia : (a.item == i) = true
    · obtain rfl : a.item = i := by simpa using hia
      rw [List.filter_eq_nil_iff.2 hpre, hpost, List.nil_append]
    · simpa [hia] using hi

/-- **the parallel loop**: however the items are ordered, slot `i` ends up holding `g i` of the memory before the
    loop and nothing else changes, provided no slot is among the inputs and the `g i` read only the inputs -/
theorem loop_any_order (n : Nat) (g : Nat → Mem V → V) (inputs : List Nat) (base : Nat) (m : Mem V)
    (hg : ∀ i m m', (∀ l ∈ inputs, m l = m' l) → g i m = g i m')
    (hin : ∀ l ∈ inputs, l < base ∨ base + n ≤ l)
    (sched : List (Act V)) (hs : sched.Perm (loopActs n g inputs base)) :
    ∀ l, exec m sched l = if base ≤ l ∧ l < base + n then g (l - base) m else m l := by
  have hmem : ∀ a, a ∈ sched ↔ ∃ i, i < n ∧ a = { item := i, reads := inputs, write := base + i, f := g i } :=
    fun a => (hs.mem_iff).trans mem_loopActs
  have hpw : sched.Pairwise (fun a b => a.write ≠ b.write) :=
    (hs.pairwise_iff (fun {a b} (h : a.write ≠ b.write) => Ne.symm h)).2 (loopActs_pairwise n g inputs base)
  have hslot : ∀ a ∈ sched, base ≤ a.write ∧ a.write < base + n := by
    intro a ha
    obtain ⟨i, hi, rfl⟩ := (hmem a).1 ha
    exact ⟨Nat.le_add_right .., Nat.add_lt_add_left hi _⟩
  have hread : ∀ a ∈ sched, ∀ m' : Mem V, (∀ l, ¬ (base ≤ l ∧ l < base + n) → m' l = m l) → a.f m' = a.f m := by
    intro a ha m' hm'
    obtain ⟨i, hi, rfl⟩ := (hmem a).1 ha
    exact hg i m' m fun l hl => hm' l fun h => by have := hin l hl; omega
  obtain ⟨hwritten, hkept⟩ := exec_distinct (fun l => base ≤ l ∧ l < base + n) m sched hslot hread hpw m (fun _ _ => rfl)
  intro l
  by_cases hl : base ≤ l ∧ l < base + n
  · obtain ⟨i, rfl⟩ : ∃ i, l = base + i := ⟨l - base, by omega⟩
    rw [if_pos hl, Nat.add_sub_cancel_left]
    exact hwritten _ ((hmem _).2 ⟨i, by omega, rfl⟩)
  · rw [if_neg hl]
    exact hkept l fun a ha e => hl (e ▸ hslot a ha)

/-- **two phases with a barrier** (components, then biases): any order inside each phase gives the memory of the
    serial evaluation -/
theorem two_phase (n₁ n₂ : Nat) (g₁ g₂ : Nat → Mem V → V) (in₁ in₂ : List Nat) (b₁ b₂ : Nat) (m : Mem V)
    (hg₁ : ∀ i m m', (∀ l ∈ in₁, m l = m' l) → g₁ i m = g₁ i m')
    (hg₂ : ∀ i m m', (∀ l ∈ in₂, m l = m' l) → g₂ i m = g₂ i m')
    (hin₁ : ∀ l ∈ in₁, l < b₁ ∨ b₁ + n₁ ≤ l) (hin₂ : ∀ l ∈ in₂, l < b₂ ∨ b₂ + n₂ ≤ l)
    (s₁ s₂ : List (Act V)) (hs₁ : s₁.Perm (loopActs n₁ g₁ in₁ b₁)) (hs₂ : s₂.Perm (loopActs n₂ g₂ in₂ b₂)) :
    exec m (s₁ ++ s₂) = exec m (loopActs n₁ g₁ in₁ b₁ ++ loopActs n₂ g₂ in₂ b₂) := by
  have e₁ : exec m s₁ = exec m (loopActs n₁ g₁ in₁ b₁) := by
    funext l
    rw [loop_any_order n₁ g₁ in₁ b₁ m hg₁ hin₁ s₁ hs₁ l,
      loop_any_order n₁ g₁ in₁ b₁ m hg₁ hin₁ _ (List.Perm.refl _) l]
  rw [exec_append, exec_append, e₁]
  funext l
  rw [loop_any_order n₂ g₂ in₂ b₂ _ hg₂ hin₂ s₂ hs₂ l,
    loop_any_order n₂ g₂ in₂ b₂ _ hg₂ hin₂ _ (List.Perm.refl _) l]

/-- the hypothesis is needed: two items writing the same location give schedule-dependent results -/
theorem conflict_is_visible :
    ∃ (a b : Act Nat) (m : Mem Nat), a.Honest ∧ b.Honest ∧ a.item ≠ b.item ∧ exec m [a, b] ≠ exec m [b, a] := by
  refine ⟨{ item := 0, reads := [], write := 0, f := fun _ => 0 },
    { item := 1, reads := [], write := 0, f := fun _ => 1 }, fun _ => 0,
    fun _ _ _ => rfl, fun _ _ _ => rfl, by decide, ?_⟩
  intro h
  have h0 := congrFun h 0
  simp [exec, Act.run] at h0

/-! ## non-vacuity -/
example : Independent ({ item := 0, reads := [0], write := 5, f := fun m => m 0 } : Act Nat)
                      { item := 1, reads := [0], write := 6, f := fun m => m 0 + 1 } := by
  refine ⟨by decide, by decide, by decide⟩

/-! ## work items of the component-parallel loop (model `CvModel/Combine.lean`) -/

theorem head_filter_range (n i : Nat) (p : Nat → Bool) (hi : i < n) (hp : p i = true) :
    ((List.range n).filter fun j => decide (i ≤ j) && p j).head? = some i := by
  rw [List.head?_filter, List.find?_range_eq_some]
  exact ⟨by simp [hp], List.mem_range.2 hi, fun j hj => by simp [Nat.not_le.2 hj]⟩

open Cv.Combine in
/-- every work item computes the component whose index it carries: with one item per enabled component, each enabled
    component is computed exactly once and no disabled one is touched, whatever the pattern of flags -/
theorem work_items_compute_each_enabled_once (flags : List Bool) :
    (workItems flags).map (computedBy flags) = (workItems flags).map some := by
  apply List.map_congr_left
  intro i hi
  unfold workItems at hi
  obtain ⟨hr, hf⟩ := List.mem_filter.mp hi
  exact head_filter_range flags.length i (fun j => flags.getD j false) (List.mem_range.mp hr) hf

open Cv.Combine in
/-- the items are exactly the enabled indices, in increasing order, without repetition -/
theorem work_items_are_the_enabled (flags : List Bool) (i : Nat) :
    i ∈ workItems flags ↔ (i < flags.length ∧ flags.getD i false = true) := by
  unfold workItems
  rw [List.mem_filter, List.mem_range]

open Cv.Combine in
/-- numbering the items by their rank among the enabled components (`workItemsByRank`: Colvars before fix 99e8a6f9) does not have this
    property: with the first of three components switched off, component 1 is computed twice and component 2 never -/
theorem rank_numbering_recomputes :
    (workItemsByRank [false, true, true]).map (computedBy [false, true, true]) = [some 1, some 1] := by
  decide

end Cv.C12
